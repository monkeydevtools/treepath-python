import Treepath.Model.Basic
import Treepath.Model.Path
import Treepath.Model.Machine
import Treepath.Model.Has
import Treepath.Model.Fns
import Treepath.Model.Api
import Treepath.Model.Heap
import Treepath.Model.Mutate
import Treepath.Model.DocList
import Treepath.Model.Descr
import Treepath.Model.Builder
import Treepath.Spec.Eval
import Treepath.Spec.Has
import Treepath.Generated.Budget
import Treepath.Generated.Reserved
import Treepath.Generated.Stores
import Treepath.Generated.Shared
import Treepath.Generated.ExcMro
import Treepath.Proofs.ArrayLemmas
import Treepath.Proofs.SliceLemmas
import Treepath.Proofs.EvalLemmas
import Treepath.Proofs.EventLemmas
import Treepath.Proofs.NodeLemmas
import Treepath.Proofs.ApiLemmas
import Treepath.Proofs.Threads
import Treepath.Proofs.BuilderLemmas
import Treepath.Proofs.StepLemmas
import Treepath.Proofs.MachineLemmas
import Treepath.Proofs.ErrorLemmas
import Treepath.Proofs.Stack
import Treepath.Proofs.StreamLemmas
import Treepath.Proofs.RoundTrip
import Treepath.Proofs.Sim
import Treepath.Proofs.StreamEval
import Treepath.Proofs.Bisim
import Treepath.Proofs.Natural
import Treepath.Proofs.Drive
import Treepath.Proofs.Invariant
import Treepath.Proofs.SimX
import Treepath.Proofs.StreamExc
import Treepath.Proofs.Work
import Treepath.Proofs.Distinct
import Treepath.Proofs.DriveX
import Treepath.Proofs.HasRefine
import Treepath.Proofs.HasRefineX
import Treepath.Proofs.Budget
import Treepath.Proofs.LeafEvents
import Treepath.Proofs.NoRescan
import Treepath.Proofs.Restart
import Treepath.Proofs.Descends
import Treepath.Proofs.Genuine
import Treepath.Proofs.HeapLemmas
import Treepath.Proofs.MutateLemmas
import Treepath.Proofs.DocListLemmas
import Treepath.Proofs.TreeWriteLemmas
import Treepath.Proofs.Unfold
import Treepath.Proofs.AllocUnf
import Treepath.Proofs.NaturalNext
import Treepath.Proofs.HeapSearch
import Treepath.Proofs.Refold
import Treepath.Proofs.RefoldOps
import Treepath.Proofs.RefoldInv
import Treepath.Proofs.RefoldApi
import Treepath.Proofs.RefoldList
import Treepath.Proofs.RefoldHandles
import Treepath.Proofs.RefoldNested
import Treepath.Proofs.Cascade
import Treepath.Proofs.LastStep
import Treepath.Props.C01
import Treepath.Props.C02
import Treepath.Props.C03
import Treepath.Props.C04
import Treepath.Props.C05
import Treepath.Props.C06
import Treepath.Props.C07
import Treepath.Props.C08
import Treepath.Props.C09
import Treepath.Props.C10
import Treepath.Props.C11
import Treepath.Props.C12
import Treepath.Props.C13
import Treepath.Props.C14
import Treepath.Props.C15
import Treepath.Props.C16
import Treepath.Props.C17
import Treepath.Props.C18
import Treepath.Props.C19
import Treepath.Props.C20
