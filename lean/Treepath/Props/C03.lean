import Treepath.Proofs.Drive
import Treepath.Proofs.EvalLemmas
import Treepath.Proofs.NodeLemmas
import Treepath.Proofs.DriveX
/- C03 — a filter keeps exactly the candidates its predicate accepts -/
namespace Treepath.C03

/-- a filter step keeps the candidate iff the predicate's value is truthy — only truthiness
matters — and what it keeps is the unchanged candidate (behind a bookkeeping node) -/
theorem filter_keeps (f : Pred J) (n : MNode J) (j : J) (h : (f n).res = .val j) :
    evalStep (.filter f) n = (if j.truthy then [MNode.imag n] else [], none) := by
  simp [evalStep, Step.cls, h]

/-- the kept candidate has the same location, value, name, parent and absolute path -/
theorem kept_is_unchanged (n : MNode J) :
    (MNode.imag n).erase = n.erase ∧ (MNode.imag n).data = n.data ∧ (MNode.imag n).dataName = n.dataName ∧
    (MNode.imag n).parent = n.parent ∧ (MNode.imag n).pathStr = n.pathStr := by
  simp

/-- an exception raised by the predicate surfaces as `TraversingError` caused by it: it is
neither swallowed nor turned into a silent non-match -/
theorem filter_raise (f : Pred J) (n : MNode J) (e : Exc) (h : (f n).res = .raise e) :
    evalStep (.filter f) n = ([], some (.traversing e)) := by
  simp [evalStep, Step.cls, h]

/-- a filter followed by `t`, at one candidate `n` on which the predicate returns a value: the
candidate is continued by `t` iff that value is truthy, and contributes nothing otherwise -/
theorem filter_then (f : Pred J) (t : List (Step J)) (n : MNode J) (j : J) (h : (f n).res = .val j) :
    evalE (.filter f :: t) n = if j.truthy then evalE t (.imag n) else ([], none) := by
  simp only [evalE, filter_keeps f n j h]
  by_cases ht : j.truthy <;> simp [ht, seqFlat_single]

/-- one call per candidate, in candidate order, with the candidate itself as argument: the
event stream of a filter step starts with `predCall n` -/
theorem filter_calls_once (f : Pred J) (t : List (Step J)) (vi : Nat) (n : MNode J) :
    ∃ tail, stream (.filter f :: t) vi n = .predCall n :: (f n).evs ++ tail := by
  simp only [stream, Step.cls]
  exact ⟨_, rfl⟩

/-- **the traverser applies filters as the definition says.**  For every document and every
path over the full step grammar whose predicates are arbitrary functions of the candidate
that do not raise (returning any object: only truthiness is used) and whose own events are
clean (true of every has-family predicate), the machine driven to `StopIteration` yields
exactly `eval steps root`. -/
theorem machine_filters (steps : Array (Step J)) (src : Src J) (hq : Quiet steps.toList) (hp : PredsClean steps)
    (limit : Nat) (st' st'' : St J) (rs : List (MNode J)) (E evs : List (Ev J))
    (hy : Yields J.view steps src limit freshIter rs E st')
    (hstop : next J.view steps src limit st' = (st'', evs, .stop)) :
    rs = eval steps.toList src.rootNode :=
  exhausted_all steps src hq hp limit st' st'' rs E evs hy hstop

/-- **call log.**  The complete action run of the machine emits exactly the specification's
stream — in which each filter position contributes `predCall c` once per candidate, in
candidate order (`filter_calls_once`) — and then the machine is exhausted. -/
theorem machine_call_log (steps : Array (Step J)) (src : Src J) (hq : Quiet steps.toList) :
    ∃ k stD, hrun J.view steps src (1 + k) freshIter = (stD, stream steps.toList 0 src.rootNode) ∧ stD.act = .done :=
  full_run steps src hq

/-- a raising predicate, at the filter vertex: `vertex.match` aborts with `TraversingError`
caused by the predicate's exception and hands back the traverser state exactly as it was (the
exception is neither swallowed nor turned into a non-match; for `next()` as a whole:
`machine_raise_is_definition_raise`) -/
theorem raise_surfaces {α} (view : α → View α) (st : St α) (c : Nat) (tm : TM α) (vi : Nat) (f : Pred α) (e : Exc)
    (h : (f tm.node).res = .raise e) :
    vmatch view st c tm vi (.filter f) =
      .abort st (.raised (.traversing e)) (.predCall tm.node :: (f tm.node).evs ++ [.raised (.traversing e)]) := by
  simp [vmatch, vmatchFilter, h]

/-- **end to end, for every path and every predicate** (no `Quiet` premise: predicates may
raise on any candidate; their own trace events are clean, as those of the has-family are):
when the traverser says `StopIteration`, the definition finished without an exception and its
answer is exactly what was yielded -/
theorem machine_filters_any_predicate (steps : Array (Step J)) (src : Src J) (hp : PredsClean steps)
    (limit : Nat) (st' st'' : St J) (rs : List (MNode J)) (E evs : List (Ev J))
    (hy : Yields J.view steps src limit freshIter rs E st')
    (hstop : next J.view steps src limit st' = (st'', evs, .stop)) :
    evalE steps.toList src.rootNode = (rs, none) :=
  exhausted_all_x steps src hp limit st' st'' rs E evs hy hstop

/-- **a predicate's exception is never swallowed and never a silent non-match**: if `next()`
raises `x` (anything but the loop budget), the definition yields exactly the results already
delivered and then fails with exactly `x` — `TraversingError` wrapping the predicate's
exception, one link per enclosing filter (`Exc.traversing` nests), or the bare `ValueError`
of a zero slice step -/
theorem machine_raise_is_definition_raise (steps : Array (Step J)) (src : Src J) (hp : PredsClean steps)
    (limit : Nat) (st' st'' : St J) (rs : List (MNode J)) (E evs : List (Ev J)) (x : Exc)
    (hy : Yields J.view steps src limit freshIter rs E st')
    (hraise : next J.view steps src limit st' = (st'', evs, .raised x)) (hx : x ≠ .loopDetected) :
    evalE steps.toList src.rootNode = (rs, some x) :=
  raises_x steps src hp limit st' st'' rs E evs x hy hraise hx

/-- … and while no call has failed, what was yielded is a prefix of what the definition
produces before its first exception -/
theorem machine_prefix_any_predicate (steps : Array (Step J)) (src : Src J) (hp : PredsClean steps)
    (limit : Nat) (st' : St J) (rs : List (MNode J)) (E : List (Ev J))
    (hy : Yields J.view steps src limit freshIter rs E st') :
    ∃ rest, (evalE steps.toList src.rootNode).1 = rs ++ rest :=
  yields_prefix_x steps src hp limit st' rs E hy

/-- the specification stream and the definition agree, exceptions included -/
theorem stream_is_definition (p : List (Step J)) (hp : PredsClean p.toArray) (n : MNode J) :
    (resultsOf (takeThroughRaise (stream p 0 n)), firstRaise (stream p 0 n)) = evalE p n :=
  cut_stream p hp 0 n

/-- non-vacuity: a predicate that raises on the second candidate -/
example :
    let r := evalE [.keyWc, .filter (fun n => ⟨[], match n.data with | .int 1 => .raise (.user "Boom") | _ => .val (.bool true)⟩)]
      (.root (.obj [("a", .int 0), ("b", .int 1), ("c", .int 2)]))
    r.1.map MNode.pathStr = ["$.a"] ∧ r.2 = some (.traversing (.user "Boom")) := by decide

example :
    (eval [.keyWc, .filter (fun n => ⟨[], .val (match n.data with | .int 0 => .str "" | _ => .arr [.int 0])⟩)]
      (.root (.obj [("a", .int 0), ("b", .int 1)]))).map MNode.pathStr = ["$.b"] := by decide

end Treepath.C03
