import Treepath.Proofs.DriveX
import Treepath.Proofs.EvalLemmas
import Treepath.Proofs.Budget
import Treepath.Proofs.StepLemmas
/- C01 — child-step selection is exact, ordered and by reference -/
namespace Treepath.C01

/-- a key step selects the value stored under that key of a dict, and nothing else -/
theorem key_on_dict (k : String) (n : MNode J) (es : List (String × J)) (h : n.data = .obj es) :
    evalStep (.key k) n = (((es.lookup k).map fun x => MNode.child n (.key k) x).toList, none) := by
  simp [evalStep, Step.cls, singleOf, J.view, h]

/-- an index step selects `xs[i]` with Python's negative-index rule, nothing when out of range -/
theorem idx_on_list (i : Int) (n : MNode J) (xs : List J) (h : n.data = .arr xs) :
    evalStep (.idx i) n = (((getPy? xs i).map fun x => MNode.child n (.idx i) x).toList, none) := by
  simp [evalStep, Step.cls, singleOf, J.view, h]

/-- the key wildcard selects every member of a dict in insertion order -/
theorem keyWc_on_dict (n : MNode J) (es : List (String × J)) (h : n.data = .obj es) :
    evalStep .keyWc n = (es.map (fun (k, x) => MNode.child n (.key k) x), none) := by
  simp [evalStep, Step.cls, itemsOf, J.view, h, dictItems, List.map_map, Function.comp_def]

/-- the index wildcard selects every item of a list in index order -/
theorem idxWc_on_list (n : MNode J) (xs : List J) (h : n.data = .arr xs) :
    evalStep .idxWc n = ((enumFrom 0 xs).map (fun (i, x) => MNode.child n (.idx i) x), none) := by
  simp [evalStep, Step.cls, itemsOf, J.view, h, listItems, List.map_map, Function.comp_def]

/-- a comma-delimited step on a dict: the listed keys in the order written, repeats repeated,
absent keys and integer entries skipped -/
theorem tuple_on_dict (ns : List Name) (n : MNode J) (es : List (String × J)) (h : n.data = .obj es) :
    evalStep (.tuple ns) n =
      (ns.filterMap (fun nm => match nm with
        | .key k => (es.lookup k).map (fun x => MNode.child n nm x)
        | .idx _ => none), none) := by
  rw [evalStep_items _ n _ rfl (by rw [h]; rfl), List.map_filterMap]
  congr 2
  funext nm
  cases nm <;> simp only [Option.map_map, Option.map_none] <;> rfl

/-- a comma-delimited step on a list: the listed indices in the order written, negative
indices as Python resolves them, out-of-range and string entries skipped; the reported
`data_name` is the index as written -/
theorem tuple_on_list (ns : List Name) (n : MNode J) (xs : List J) (h : n.data = .arr xs) :
    evalStep (.tuple ns) n =
      (ns.filterMap (fun nm => match nm with
        | .idx i => (getPy? xs i).map (fun x => MNode.child n nm x)
        | .key _ => none), none) := by
  rw [evalStep_items _ n _ rfl (by rw [h]; rfl), List.map_filterMap]
  congr 2
  funext nm
  cases nm <;> simp only [Option.map_map, Option.map_none] <;> rfl

/-- any child step applied to a scalar selects nothing — and does not fail -/
theorem wrong_kind_scalar (s : Step J) (n : MNode J) (hs : s.isChild = true)
    (h : n.data.isContainer = false) :
    evalStep s n = ([], none) := by
  have hv := view_of_scalar n.data h
  rcases cls_of_isChild s hs with hc | hc
  · rw [evalStep_single s n hc, singleOf_scalar J.view s n hs hv]; rfl
  · exact evalStep_wrongKind s n hc (hv ▸ itemsOf_scalar s)

/-- a key step on a list, an index step on a dict: nothing, no failure -/
theorem key_on_list (k : String) (n : MNode J) (xs : List J) (h : n.data = .arr xs) :
    evalStep (.key k) n = ([], none) := by
  simp [evalStep, Step.cls, singleOf, J.view, h]

theorem idx_on_dict (i : Int) (n : MNode J) (es : List (String × J)) (h : n.data = .obj es) :
    evalStep (.idx i) n = ([], none) := by
  simp [evalStep, Step.cls, singleOf, J.view, h]

/-- **the traverser yields exactly what the definition selects.**  For every JSON document
and every path of child steps (any number of multi-valued steps, whose iterations nest and
are resumed through copied / restored resume pointers), driving the pointer-faithful machine
model with `next()` until `StopIteration` yields exactly `eval steps root`: same nodes, same
order, one result per derivation.  (Zero slice steps are not supported steps.) -/
theorem machine_yields_definition (steps : Array (Step J)) (d : J)
    (hchild : ∀ s ∈ steps.toList, s.isChild = true ∧ s.supported = true)
    (limit : Nat) (st' st'' : St J) (rs : List (MNode J)) (E evs : List (Ev J))
    (hy : Yields J.view steps (.doc d) limit freshIter rs E st')
    (hstop : next J.view steps (.doc d) limit st' = (st'', evs, .stop)) :
    rs = eval steps.toList (.root d) := by
  have hff : ∀ s ∈ steps.toList, ∀ f, s ≠ .filter f := fun s hs => Step.ne_filter_of_isChild (hchild s hs).1
  exact (congrArg Prod.fst
    (exhausted_all_x steps (.doc d) (clean_of_filterFree steps hff) limit st' st'' rs E evs hy hstop)).symm

/-- the same as one equation, with the budget made explicit: `list(find_matches(p, d))`
(the model's `drain` with the real, source-generated budget) **is** `eval p d` for every
document and every path of child steps whose definition needs fewer than `(budget - 3) / 6`
examinations; no error, no premise about the run -/
theorem list_find_matches_is_definition (steps : Array (Step J)) (d : J)
    (hchild : ∀ s ∈ steps.toList, s.isChild = true ∧ s.supported = true)
    (hb : 6 * exams steps.toList (.root d) + 3 < Generated.loopBudget) (fuel : Nat)
    (hf : (eval steps.toList (.root d)).length < fuel) :
    drain ({ view := J.view, toJ := id } : Ctx J) steps (.doc d) fuel freshIter = (eval steps.toList (.root d), none) := by
  have hff : ∀ s ∈ steps.toList, ∀ f, s ≠ .filter f := fun s hs => Step.ne_filter_of_isChild (hchild s hs).1
  exact drain_is_eval steps (.doc d) { view := J.view, toJ := id } rfl
    (quiet_of_filterFree _ (fun s hs => ⟨(hchild s hs).2, hff s hs⟩)) (clean_of_filterFree steps hff)
    (fun s hs f hf => absurd hf (hff s hs f)) hb fuel freshIter [] [] _ (.nil _) (by simp [Src.rootNode]) hf

/-- "by reference": every node a child step selects is a `child` of the context carrying a
value that *is* one of the context container's own members (the model's values are the
document's own sub-terms; object identity itself is checked on the python side) -/
theorem child_value_is_member (s : Step J) (n m : MNode J) (hs : s.isChild = true)
    (hm : m ∈ (evalStep s n).1) :
    ∃ nm, m = .child n nm m.data ∧
      ((∃ es, n.data = .obj es ∧ m.data ∈ es.map Prod.snd) ∨ (∃ xs, n.data = .arr xs ∧ m.data ∈ xs)) := by
  obtain ⟨nm, x, rfl, hx⟩ := evalStep_child s n m hs hm
  refine ⟨nm, rfl, ?_⟩
  cases hd : n.data <;> rw [hd] at hx
  case obj es => exact .inl ⟨es, rfl, hx⟩
  case arr xs => exact .inr ⟨xs, rfl, hx⟩
  all_goals cases hx

/-- non-vacuity: a concrete document and path with nested multi-valued steps -/
example : (eval [.keyWc, .idxWc] (.root (.obj [("a", .arr [.int 1, .int 2]), ("b", .arr [.null])]))).map MNode.pathStr
    = ["$.a[0]", "$.a[1]", "$.b[0]"] := by decide

end Treepath.C01
