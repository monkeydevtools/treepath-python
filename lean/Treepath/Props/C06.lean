import Treepath.Proofs.MutateLemmas
import Treepath.Proofs.BuilderLemmas
import Treepath.Generated.Stores
/- C06 — queries never modify the document or the path.
In a functional model purity of the readers is largely by construction (said so in
DESIGN.md): the read API has no store among its results.  What carries the weight is the
correspondence run, the generated store table below, and the python-side snapshot oracle. -/
namespace Treepath.C06

/-- the one reader that *can* write, `get` with `store_default`: when the path is found nothing
is stored.  (For the other readers there is nothing to state: by construction of the model
`getMatch`, `get`, `drain` return matches / values / errors and no store.) -/
theorem get_found_stores_nothing (stepsOf : Heap → List (Step Val)) (src : Src Val) (h : Heap) (v : Val) (m : MNode Val)
    (hfound : getMatch (wcx h) (stepsOf h).toArray src false = .ok (some m)) :
    (getStoreDefault stepsOf src v h).1 = h := by
  simp [getStoreDefault, hfound]

/-- a `pop` / `pop_match` that finds nothing (or fails) leaves the store as it is -/
theorem failed_pop_pure (stepsOf : Heap → List (Step Val)) (src : Src Val) (mm : Bool) (h h' : Heap)
    (r : Except ApiErr (Option (MNode Val))) (hr : popMatch stepsOf src mm h = (h', r))
    (hne : ∀ m, r ≠ .ok (some m)) : h' = h :=
  popMatch_other hr hne

/-- the one reader that can write, when the search itself fails (a predicate raises, the
budget runs out): the error is passed on and nothing is stored -/
theorem get_store_default_error_stores_nothing (stepsOf : Heap → List (Step Val)) (src : Src Val) (h : Heap) (v : Val)
    (e : ApiErr) (herr : getMatch (wcx h) (stepsOf h).toArray src false = .error e) :
    getStoreDefault stepsOf src v h = (h, .error e) := by
  simp [getStoreDefault, herr]

/-- `pop(expr, data, default)` that finds nothing answers with the default and leaves the
store as it is: only a pop that returns a match has written -/
theorem pop_default_pure (stepsOf : Heap → List (Step Val)) (src : Src Val) (d : Val) (h h' : Heap)
    (r : Except ApiErr Val) (hr : pop stepsOf src (some d) h = (h', r))
    (hmiss : ∀ m, (popMatch stepsOf src false h).2 ≠ .ok (some m)) : h' = h := by
  rcases hp : popMatch stepsOf src false h with ⟨h1, r1⟩
  have hpure : h1 = h := popMatch_other hp (by simpa [hp] using hmiss)
  unfold pop at hr
  rw [show (some d).isNone = false from rfl, hp] at hr
  -- whatever `pop_match` answered (an error, nothing, a match), `pop` hands on its store
  rcases r1 with e | _ | m
  all_goals cases hr; exact hpure

/-- evaluating or rendering a path fills caches only: after `str(expr)` and after handing the
step list to the traverser every vertex keeps its parent and kind (`SameShape`), and rendering
again gives the same string; that it also selects the same follows with
`C15.same_shape_same_meaning` -/
theorem path_unchanged_by_use (st : VStore) (hw : WF st) (v : Nat) (hv : v < st.size) :
    SameShape st (render st v).1 ∧ SameShape st (pathAsList st v).1 ∧
    (render (render st v).1 v).2 = (render st v).2 := by
  obtain ⟨h1, h2, h3⟩ := render_spec st hw v hv
  obtain ⟨_, _, h6⟩ := pathAsList_spec st hw v hv
  obtain ⟨h7, _, _⟩ := render_spec (render st v).1 h2 v (SameShape.lt h3 hv)
  exact ⟨h3, h6, by rw [h7, h1, renderPure_sameShape h3]⟩

/-- **generated from the source on every run**: the generator lists the places in the package
that store into, delete from, or call a mutating method on a document container, and gives the
function each sits in a role.  Stated: every listed site has the role "writer" or "helper" (so
none sits in a traverser, a vertex `match`, a has-function or a read API function, which the
generator calls "other"), the two tables have equal length and are not empty. -/
theorem only_writers_store :
    Generated.storeRoles.all (fun r => r.2 == "writer" || r.2 == "helper") = true ∧
    Generated.storeRoles.length = Generated.documentStores.length ∧ Generated.documentStores ≠ [] := by
  decide

end Treepath.C06
