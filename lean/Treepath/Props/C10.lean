import Treepath.Proofs.RefoldApi
import Treepath.Proofs.HeapSearch
/- C10 — pop removes exactly the first match and returns it -/
namespace Treepath.C10

/-- `vertex.pop` writes exactly one object — the container the match's parent holds — and
nothing is allocated or removed from the store -/
theorem vertexPop_frame (h h' : Heap) (last : Option (Step Val)) (m : MNode Val)
    (hp : vertexPop h last m = .ok h') :
    h'.size = h.size ∧ ∃ id : Nat, (m.parent.map MNode.data = some (.ref id)) ∧ ∀ j : Nat, j ≠ id → h'[j]? = h[j]? := by
  obtain ⟨p, id, _, o, hpar, hd, _, _, rfl⟩ := vertexPop_ok hp
  exact ⟨hput_size .., id, by rw [hpar, ← hd]; rfl, fun j hj => hput_other hj⟩

/-- a dict entry is removed as `del d[k]` does: the container becomes `dictErase es k` (the model
of `del d[k]`, which keeps the order of the rest), and looking up any other key gives what it gave
before -/
theorem pop_key (h : Heap) (k : String) (m : MNode Val) (id : Nat) (es : List (String × Val)) (v : Val)
    (hpar : m.parent.map MNode.data = some (.ref id)) (ho : h[id]? = some (.dict es)) (hl : es.lookup k = some v) :
    vertexPop h (some (.key k)) m = .ok (hput h id (.dict (dictErase es k))) ∧
    ∀ k', k' ≠ k → (dictErase es k).lookup k' = es.lookup k' := by
  obtain ⟨p, hp, hd⟩ := Option.map_eq_some_iff.mp hpar
  exact ⟨vertexPop_of_write (nm := .key k) hp hd (.key ho hl), fun k' hk => dictErase_lookup_other hk⟩

/-- a list item is removed exactly as `l.pop(i)` does: later items move down by one -/
theorem pop_index (h : Heap) (i : Int) (m : MNode Val) (id kk : Nat) (xs : List Val) (v : Val)
    (hpar : m.parent.map MNode.data = some (.ref id)) (ho : h[id]? = some (.list xs))
    (hn : normIndex xs.length i = some kk) (hv : xs[kk]? = some v) :
    vertexPop h (some (.idx i)) m = .ok (hput h id (.list (xs.eraseIdx kk))) := by
  obtain ⟨p, hp, hd⟩ := Option.map_eq_some_iff.mp hpar
  exact vertexPop_of_write (nm := .idx i) hp hd (.idx ho hn hv)

/-- a match whose last step is not a key or index (incl. the root) cannot be popped: PopError -/
theorem pop_unsupported (h : Heap) (last : Option (Step Val)) (m : MNode Val)
    (hl : match last with | some (.key _) | some (.idx _) => False | _ => True) :
    vertexPop h last m = .error .popError := by
  cases last with
  | none => rfl
  | some s =>
    cases s with
    | key _ | idx _ => cases hl
    | _ => rfl

/-- the outcomes of `pop_match`: any error (nothing matched with `must_match`, an unsupported
last step, a failing search) and the answer `None` leave the store unchanged; a returned match is
what `get_match` found, nothing is allocated and every address but one holds what it held -/
theorem popMatch_cases (stepsOf : Heap → List (Step Val)) (src : Src Val) (mm : Bool) (h h' : Heap)
    (r : Except ApiErr (Option (MNode Val))) (hr : popMatch stepsOf src mm h = (h', r)) :
    (∀ e, r = .error e → h' = h) ∧ (r = .ok none → h' = h) ∧
    (∀ m, r = .ok (some m) → getMatch (wcx h) (stepsOf h).toArray src mm = .ok (some m) ∧ h'.size = h.size ∧
        ∃ id : Nat, ∀ j : Nat, j ≠ id → h'[j]? = h[j]?) := by
  refine ⟨fun e he => popMatch_other hr (by simp [he]),
    fun he => popMatch_other hr (by simp [he]), fun m hm => ?_⟩
  subst hm
  obtain ⟨hg, hp⟩ := popMatch_ok hr
  obtain ⟨hsz, id, _, hfr⟩ := vertexPop_frame _ _ _ _ hp
  exact ⟨hg, hsz, id, hfr⟩

/-- `pop` returns the value of the first match (falsy values like any other), or the default
when nothing matched -/
theorem pop_returns (stepsOf : Heap → List (Step Val)) (src : Src Val) (d : Option Val) (h : Heap) :
    (pop stepsOf src d h).2 =
      match (popMatch stepsOf src d.isNone h).2 with
      | .ok (some m) => .ok m.data
      | .ok none => .ok (d.getD (.atom .null))
      | .error e => .error e := by
  unfold pop
  rcases popMatch stepsOf src d.isNone h with ⟨h', r⟩
  cases r with
  | error e => rfl
  | ok o => cases o <;> rfl

/-- **"the first match of p"**, against the definition: the match `pop_match` removes is —
location for location, value unfolding to value — the first result of the step-by-step
definition of `p` on the JSON tree the document unfolds to -/
theorem popped_match_is_the_definitions_first (stepsOf : Heap → List (Step Val)) (root : Val) (j : J)
    (h h' : Heap) (mm : Bool) (m : MNode Val) (hu : Unf h root j)
    (sb : Array (Step J)) (hsteps : LRel (StepRel (Unf h)) (stepsOf h) sb.toList) (hp : PredsClean sb)
    (hpop : popMatch stepsOf (.doc root) mm h = (h', .ok (some m))) :
    ∃ m', NodeRel (Unf h) m m' ∧ (evalE sb.toList (.root j)).1.head? = some m' :=
  getMatch_heap_found h root j hu (stepsOf h).toArray sb hsteps hp mm m (popMatch_ok hpop).1

/-- … and when `pop_match` with `must_match=True` raises MatchNotFoundError, the definition
selects nothing (and raises nothing) on that tree -/
theorem nothing_to_pop_means_nothing_selected (stepsOf : Heap → List (Step Val)) (root : Val) (j : J)
    (h : Heap) (hu : Unf h root j)
    (sb : Array (Step J)) (hsteps : LRel (StepRel (Unf h)) (stepsOf h) sb.toList) (hp : PredsClean sb)
    (hpop : popMatch stepsOf (.doc root) true h = (h, .error .matchNotFound)) :
    evalE sb.toList (.root j) = ([], none) := by
  rcases (popMatch_error hpop).2 with hg | ⟨m, _, hv⟩
  · exact getMatch_heap_notfound hu (stepsOf h).toArray sb hsteps hp (.inr hg)
  · -- `vertex.pop` fails with PopError, `KeyError` or `IndexError`, never with MatchNotFoundError
    rcases vertexPop_error hv with h1 | ⟨h1 | h1, _⟩ <;> cases h1

/-- **exactly one entry, said on the tree**: on a document that is a tree (`DocInv`), a
successful `pop_match` makes the document unfold to `J.popAt j p.loc nm` — `j` without the
entry named by the last step inside the node at the location of the match's parent, every
other part of `j` as it was, nothing new — and the document is again such a tree -/
theorem pop_is_one_tree_update (stepsOf : Heap → List (Step Val)) (root : Val) (j : J) (h h' : Heap) (mm : Bool)
    (m : MNode Val) (hi : DocInv h root j)
    (hpop : popMatch stepsOf (.doc root) mm h = (h', .ok (some m))) :
    ∃ p nm j', m.parent = some p ∧ (stepsOf h).getLast? = some (nameStepV nm) ∧ J.popAt j p.loc nm = some j' ∧
      DocInv h' root j' ∧ ∀ x ∈ fpJ h' j' root, x ∈ fpJ h j root :=
  popMatch_refines stepsOf root j h h' mm m hi hpop

/-- every other outcome of `pop_match` (nothing matched, an error) leaves the store as it is -/
theorem pop_otherwise_nothing (stepsOf : Heap → List (Step Val)) (src : Src Val) (h h' : Heap) (mm : Bool)
    (r : Except ApiErr (Option (MNode Val))) (hpop : popMatch stepsOf src mm h = (h', r))
    (hr : ∀ m, r ≠ .ok (some m)) : h' = h :=
  popMatch_other hpop hr

/-- the tree-level removal, computed: `pop(path.a[-1], {"a": [1, 2], "b": null})` -/
example : J.popAt (.obj [("a", .arr [.int 1, .int 2]), ("b", .null)]) [.key "a"] (.idx (-1))
    = some (.obj [("a", .arr [.int 1]), ("b", .null)]) := by
  simp [J.popAt, J.updateAt, childAt, J.view, List.lookup, J.delName, normIndex, J.putChild, kvsSet]

end Treepath.C10
