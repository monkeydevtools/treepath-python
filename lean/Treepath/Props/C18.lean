import Treepath.Proofs.RefoldNested
import Treepath.Model.Descr
import Treepath.Proofs.HeapSearch
/- C18 — descriptors are thin views over the wrapped document.
Most statements here are definitional unfoldings of a small model (said so in DESIGN.md);
the correspondence run carries the weight for this property. -/
namespace Treepath.C18

/-- assigning = the setter with `to_json_value` applied first, never cascading -/
theorem set_is_setter (c : Conv) (stepsOf : Heap → List (Step Val)) (h : Heap) (data wrapped : Val) :
    descrSet c stepsOf h data wrapped = setMatch stepsOf (.doc data) false h (c.unwrap wrapped) := rfl

/-- hence a failing assignment leaves the document unchanged and a successful one writes one
slot of one object (C08 through the descriptor) -/
theorem set_frame (c : Conv) (stepsOf : Heap → List (Step Val)) (h h' : Heap) (data wrapped : Val)
    (r : Except ApiErr (MNode Val)) (hr : descrSet c stepsOf h data wrapped = (h', r)) :
    (∀ e, r = .error e → h' = h) ∧
    (∀ m, r = .ok m → m.data = c.unwrap wrapped ∧ h'.size = h.size ∧ ∃ id : Nat, ∀ j : Nat, j ≠ id → h'[j]? = h[j]?) :=
  setMatchN_nocascade hr

/-- `del` equals `pop` -/
theorem del_is_pop (stepsOf : Heap → List (Step Val)) (h : Heap) (data : Val) :
    descrDel stepsOf h data = pop stepsOf (.doc data) none h := rfl

/-- reading with the default getter, when the `get_match(…, must_match=True)` under it finds a
match: the descriptor hands on that match's data -/
theorem get_is_getter (stepsOf : Heap → List (Step Val)) (h : Heap) (data : Val) (m : MNode Val)
    (hm : getMatch (wcx h) (stepsOf h).toArray (.doc data) true = .ok (some m)) :
    descrGet .get stepsOf h data = .ok (.value m.data) := by
  simp [descrGet, descrGetS, hm]

/-- a typed attribute wraps the selected JSON node itself, not a copy: the nested document's
data *is* the value the getter returned — for a container, the same object reference — so a
write through the typed object is a write to the original store -/
theorem typed_is_alias (stepsOf : Heap → List (Step Val)) (h : Heap) (data : Val) (m : MNode Val)
    (hm : getMatch (wcx h) (stepsOf h).toArray (.doc data) true = .ok (some m)) :
    typedData .get stepsOf h data = .ok m.data := by
  simp [typedData, typedDataS, descrGetS, hm]

/-- iterator-typed attributes reject assignment with SetError and leave the store unchanged -/
theorem iter_rejects_assignment (h : Heap) : descrSetIter h = (h, .error .setError) := rfl

/-- deprecated `pprop`, reading: when `get_match(…, must_match=False)` finds nothing the value is
`None` (the not-found case of `get(..., default=None)`) -/
theorem pprop_read_default_none (stepsOf : Heap → List (Step Val)) (h : Heap) (data : Val)
    (hm : getMatch (wcx h) (stepsOf h).toArray (.doc data) false = .ok none) :
    ppropGet stepsOf h data = .ok (.atom .null) := by
  simp [ppropGet, hm]

/-- deprecated `mprop`, reading: `get_match(..., must_match=False)`, by definition -/
theorem mprop_read (stepsOf : Heap → List (Step Val)) (h : Heap) (data : Val) :
    mpropGet stepsOf h data = getMatch (wcx h) (stepsOf h).toArray (.doc data) false := rfl

/-- deprecated `pprop` / `mprop`, assigning: `set_` with cascade, by definition -/
theorem pprop_assign_cascades (stepsOf : Heap → List (Step Val)) (h : Heap) (data v : Val) :
    ppropSet stepsOf h data v = setMatch stepsOf (.doc data) true h v := rfl

/-- reading an attribute with the default getter, against the definition: when the descriptor
hands a value to `to_wrapped_value`, the definition has a first result on the unfolded document
and the value unfolds to that result's value (`getMatch_heap_found` relates the whole match,
location included; only the value is kept here) -/
theorem attr_read_is_the_definitions_first (stepsOf : Heap → List (Step Val)) (h : Heap) (data : Val) (j : J)
    (hu : Unf h data j) (sb : Array (Step J)) (hsteps : LRel (StepRel (Unf h)) (stepsOf h) sb.toList)
    (hp : PredsClean sb) (v : Val) (hg : descrGet .get stepsOf h data = .ok (.value v)) :
    ∃ m', (evalE sb.toList (.root j)).1.head? = some m' ∧ Unf h v m'.data := by
  simp only [descrGet, descrGetS] at hg
  split at hg
  · rename_i m hm
    simp only [Except.ok.injEq, DOut.value.injEq] at hg
    subst hg
    obtain ⟨m', hrel, hhead⟩ := getMatch_heap_found h data j hu (stepsOf h).toArray sb hsteps hp true m hm
    exact ⟨m', hhead, hrel.data⟩
  · simp at hg
  · simp at hg

/-- an attribute typed with `getter=get_match` wraps the Match: the attributes of the nested
document are searched *from that match* (`get(expr, match)`, `set_(expr, v, match)`,
`pop(expr, match)`): reading, assigning and deleting through the nested document are the
getter, `set_` (no cascade) and `pop` with the data source `.nested m` -/
theorem typed_through_get_match (stepsOf : Heap → List (Step Val)) (h : Heap) (src : Src Val) (m : MNode Val)
    (hm : getMatch (wcx h) (stepsOf h).toArray src true = .ok (some m))
    (inner : Heap → List (Step Val)) (c : Conv) (w : Val) :
    typedMatch stepsOf h src = .ok (.nested m) ∧
    descrGetS .get inner h (.nested m) =
      (match getMatch (wcx h) (inner h).toArray (.nested m) true with
       | .ok (some r) => .ok (.value r.data) | .ok none => .error (.bug "must_match") | .error e => .error e) ∧
    descrSetS c inner h (.nested m) w = setMatch inner (.nested m) false h (c.unwrap w) ∧
    descrDelS inner h (.nested m) = pop inner (.nested m) none h := by
  refine ⟨by rw [typedMatch, hm], ?_, rfl, rfl⟩
  unfold descrGetS
  rcases getMatch (wcx h) (inner h).toArray (.nested m) true with e | _ | r <;> rfl

/-- **assigning through an attribute, on the JSON tree**: on a document that is a tree, a
successful assignment `inst.attr = w` (no cascade) makes the document unfold to the old tree
with `to_json_value(w)` at the attribute's location — the name of the path's last step inside
the first node its parent path selects — and nothing else changed (C08's
`set_is_one_tree_update` through the descriptor) -/
theorem attr_assignment_is_one_tree_update (c : Conv) (stepsOf : Heap → List (Step Val)) (root : Val) (j jv : J)
    (h h' : Heap) (w : Val) (m : MNode Val) (hi : DocInv h root j)
    (hv : UnfJ h jv (c.unwrap w)) (hvn : (fpJ h jv (c.unwrap w)).Nodup)
    (hfresh : ∀ x ∈ fpJ h jv (c.unwrap w), x ∉ fpJ h j root)
    (hset : descrSet c stepsOf h root w = (h', .ok m)) :
    ∃ pm nm j', m = .child pm nm (c.unwrap w) ∧ J.setAt j pm.loc nm jv = some j' ∧ DocInv h' root j' := by
  simp only [descrSet, descrSetS] at hset
  obtain ⟨n, _, hset⟩ := setMatch_ok hset
  obtain ⟨pm, nm, j', e1, _, e2, e3, _⟩ := setMatch_refines stepsOf root j jv n h h' _ m hi hv hvn hfresh hset
  exact ⟨pm, nm, j', e1, e2, e3⟩

/-- **`del inst.attr` on the JSON tree**: `del` is `pop` (`del_is_pop`); stated for the
`pop_match` under it, with either `must_match`: a successful one makes the document unfold to the
old tree with one entry removed from the node at the location of the match's parent (that the
entry is the one the last step names: C10's `pop_is_one_tree_update`), and it is again a tree -/
theorem attr_deletion_is_one_tree_update (stepsOf : Heap → List (Step Val)) (root : Val) (j : J) (h h' : Heap)
    (mm : Bool) (m : MNode Val) (hi : DocInv h root j)
    (hpop : popMatch stepsOf (.doc root) mm h = (h', .ok (some m))) :
    ∃ p nm j', m.parent = some p ∧ J.popAt j p.loc nm = some j' ∧ DocInv h' root j' := by
  obtain ⟨p, nm, j', e1, _, e2, e3, _⟩ := popMatch_refines stepsOf root j h h' mm m hi hpop
  exact ⟨p, nm, j', e1, e2, e3⟩

/-- **"changes made through the typed object are changes to the original document"**, on the JSON
tree: a typed attribute hands out a nested document over the node `mo` its path selects (the
node itself: `typed_is_alias`); assigning an attribute of that nested document (`nested.x = w`,
no cascade, fresh value) makes the *original* document unfold to the old tree with
`to_json_value(w)` stored in one slot of a node below the outer node's location (which node and
slot — the inner parent path's first match, the inner last step — is said by
`nested_set_refines`) — and changes nothing else; the document is again a tree, which is the
premise of this theorem for the next write -/
theorem write_through_typed_object_is_one_tree_update (c : Conv) (outer inner : Heap → List (Step Val))
    (root : Val) (j jv : J) (h h' : Heap) (w : Val) (mo m : MNode Val) (hi : DocInv h root j)
    (hmo : getMatch (wcx h) (outer h).toArray (.doc root) true = .ok (some mo))
    (hv : UnfJ h jv (c.unwrap w)) (hvn : (fpJ h jv (c.unwrap w)).Nodup)
    (hfresh : ∀ x ∈ fpJ h jv (c.unwrap w), x ∉ fpJ h j root)
    (hset : descrSet c inner h mo.data w = (h', .ok m)) :
    typedData .get outer h root = .ok mo.data ∧
    ∃ (pm : MNode Val) (nm : Name) (j' : J), J.setAt j (mo.loc ++ pm.loc) nm jv = some j' ∧ DocInv h' root j' := by
  refine ⟨typed_is_alias outer h root mo hmo, ?_⟩
  have hgen := getMatch_gen (wcx h) (heapwf_keysUniq hi.wf) _ root true mo hmo
  simp only [descrSet, descrSetS] at hset
  obtain ⟨n, _, hset⟩ := setMatch_ok hset
  obtain ⟨pm, nm, j', _, e2, e3, _⟩ := nested_set_refines inner root j jv n h h' _ mo m hi hgen hv hvn hfresh hset
  exact ⟨pm, nm, j', e2, e3⟩

/-- … and `del nested.x` (the `pop_match` under it, found) removes one entry of a node below the
outer node's location from the original document's tree, which stays a tree -/
theorem delete_through_typed_object_is_one_tree_update (outer inner : Heap → List (Step Val))
    (root : Val) (j : J) (h h' : Heap) (mo m : MNode Val) (hi : DocInv h root j)
    (hmo : getMatch (wcx h) (outer h).toArray (.doc root) true = .ok (some mo))
    (hdel : popMatch inner (.doc mo.data) true h = (h', .ok (some m))) :
    ∃ p nm j', m.parent = some p ∧ J.popAt j (mo.loc ++ p.loc) nm = some j' ∧ DocInv h' root j' := by
  have hgen := getMatch_gen (wcx h) (heapwf_keysUniq hi.wf) _ root true mo hmo
  obtain ⟨p, nm, j', e1, _, e2, e3, _⟩ := nested_pop_refines inner root j h h' true mo m hi hgen hdel
  exact ⟨p, nm, j', e1, e2, e3⟩

end Treepath.C18
