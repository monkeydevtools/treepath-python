import Treepath.Proofs.DriveX
import Treepath.Proofs.EvalLemmas
import Treepath.Proofs.NodeLemmas
/- C13 — parent steps climb the document tree -/
namespace Treepath.C13
variable {α : Type}

/-- the remembered parent of a node sits at the location one name shorter — no matter how the
node was reached (`child`, `imag` after filters / recursion / nested roots, `par` after earlier
climbs); `loc` is defined without reference to `remParent` -/
theorem remParent_loc (n t : MNode α) (h : n.remParent = some t) : t.loc = n.loc.dropLast := by
  induction n with
  | root d => simp [MNode.remParent] at h
  | child p nm d _ => simp [MNode.remParent] at h; subst h; simp [MNode.loc]
  | imag p ih => simpa using ih h
  | par r f ihr _ => simpa [MNode.remParent, MNode.loc] using ihr h

/-- there is no remembered parent exactly at the root location -/
theorem remParent_none_iff (n : MNode α) : n.remParent = none ↔ n.loc = [] := by
  induction n with
  | root d => simp [MNode.remParent, MNode.loc]
  | child p nm d _ => simp [MNode.remParent, MNode.loc]
  | imag p ih => simpa using ih
  | par r f ihr _ => simpa [MNode.remParent, MNode.loc] using ihr

/-- a parent step selects the node that contains `n` in the document (`remembered_parent`), as
a match derived from `n` — or nothing -/
theorem parent_step (n : MNode J) :
    evalStep .parent n = ((n.remParent.map fun t => MNode.par t n).toList, none) := by
  simp [evalStep, Step.cls, singleOf]

/-- the node reached by a parent step sits at the dropped-last location and carries the
data and name of the containing node -/
theorem parent_result (n t : MNode J) (h : n.remParent = some t) :
    (MNode.par t n).loc = n.loc.dropLast ∧ (MNode.par t n).data = t.data ∧
    (MNode.par t n).dataName = t.dataName := by
  refine ⟨?_, rfl, rfl⟩
  simpa [MNode.loc] using remParent_loc n t h

/-- `k` consecutive parent steps climb `k` levels: every result sits at the location of `n`
shortened by `k` names (for `k` beyond the depth of `n` the subtraction is truncated and this says
"the root location" of whatever is selected; that nothing is selected there is
`remParent_none_iff` with `parent_step`, not this theorem) -/
theorem climb_n (k : Nat) (n : MNode J) :
    ∀ m ∈ eval (List.replicate k .parent) n, m.loc = n.loc.take (n.loc.length - k) := by
  induction k generalizing n with
  | zero => intro m hm; simp [eval, evalE] at hm; subst hm; simp
  | succ k ih =>
    intro m hm
    simp only [List.replicate_succ, eval] at hm
    rw [evalE_cons_bind (by rfl), parent_step] at hm
    cases hr : n.remParent with
    | none => simp [hr, bindRes, Res.append] at hm
    | some t =>
      simp only [hr, Option.map_some, Option.toList_some, bindRes_pure] at hm
      have := ih (MNode.par t n) m hm
      have hl : (MNode.par t n).loc = n.loc.dropLast := (parent_result n t hr).1
      rw [this, hl]
      simp only [List.dropLast_eq_take, List.take_take, List.length_take, Nat.min_eq_left (Nat.sub_le _ _)]
      rw [Nat.sub_sub, Nat.add_comm 1 k]

/-- `p.<child>.parent` revisits the node: a child selected by a key / index step has that
node as its document parent -/
theorem child_then_parent (n : MNode J) (nm : Name) (d : J) :
    evalStep .parent (.child n nm d) = ([.par n (.child n nm d)], none) := by
  simp [evalStep, Step.cls, singleOf, MNode.remParent]

/-- the traverser's parent steps are the definition's: for paths with parent steps in any
position (no raising predicates) the machine yields `eval steps root`, whose parent steps
climb by `remParent` -/
theorem machine_climbs (steps : Array (Step J)) (src : Src J) (hq : Quiet steps.toList) (hp : PredsClean steps)
    (limit : Nat) (st' st'' : St J) (rs : List (MNode J)) (E evs : List (Ev J))
    (hy : Yields J.view steps src limit freshIter rs E st')
    (hstop : next J.view steps src limit st' = (st'', evs, .stop)) :
    rs = eval steps.toList src.rootNode :=
  exhausted_all steps src hq hp limit st' st'' rs E evs hy hstop

example : (eval [.key "a", .key "b", .parent, .key "k", .parent, .parent]
    (.root (.obj [("a", .obj [("b", .arr [.int 1]), ("k", .obj [])]), ("x", .int 5)]))).map MNode.pathStr
    = ["$.a.b<-a.k<-a<-$"] := by decide

end Treepath.C13
