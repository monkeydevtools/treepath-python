import Treepath.Proofs.Drive
import Treepath.Proofs.Work
import Treepath.Spec.Eval
import Treepath.Generated.Budget
import Treepath.Proofs.MachineLemmas
import Treepath.Proofs.Budget
import Treepath.Proofs.NoRescan
import Treepath.Proofs.DriveX
/- C20 — traversal halts, doing work proportional to the search space -/
namespace Treepath.C20

/-- the number of match attempts of a search has a closed recursive form: a failing
single-valued step costs one attempt … -/
theorem attempts_single_fail (s : Step J) (rest : List (Step J)) (vi : Nat) (n : MNode J)
    (hc : s.cls = .single) (h : singleOf J.view s n = none) :
    attempts (stream (s :: rest) vi n) = 1 := by
  simp only [stream, hc, h]; rfl

/-- … a successful one costs one attempt plus the work of the rest of the path … -/
theorem attempts_single_ok (s : Step J) (rest : List (Step J)) (vi : Nat) (n n' : MNode J)
    (hc : s.cls = .single) (h : singleOf J.view s n = some n') :
    attempts (stream (s :: rest) vi n) = 1 + attempts (stream rest (vi+1) n') := by
  simp only [stream, hc, h, attempts_attempt]

/-- … and a multi-valued step costs one attempt per produced item, one for exhaustion, plus
the work of the rest of the path at every item: nothing is re-scanned. -/
theorem attempts_multi (s : Step J) (rest : List (Step J)) (vi : Nat) (n : MNode J)
    (its : List (Name × J)) (hc : s.cls = .multi) (h : itemsOf s n.data.view = .ok its) :
    attempts (stream (s :: rest) vi n) =
      its.length + 1 + (its.map fun (nm, x) => attempts (stream rest (vi+1) (.child n nm x))).sum := by
  simp only [stream, hc, h, attempts_append, attempts_items, attempts_attempt]
  show _ + (1 + 0) = _
  omega

/-- a step of the wrong kind costs exactly one attempt -/
theorem attempts_wrong_kind (s : Step J) (rest : List (Step J)) (vi : Nat) (n : MNode J)
    (hc : s.cls = .multi) (h : itemsOf s n.data.view = .wrongKind) :
    attempts (stream (s :: rest) vi n) = 1 := by
  simp only [stream, hc, h]; rfl

/-- **every query on a finite JSON tree terminates**: after finitely many actions the machine
is exhausted, having emitted exactly the specification's stream — so the number of match
attempts it performs *is* `attempts (stream …)`, whose closed form above counts one attempt
per produced item plus one per exhaustion / failure: no re-scan, no restart, no spin -/
theorem terminates_with_spec_work (steps : Array (Step J)) (src : Src J) (hq : Quiet steps.toList) :
    ∃ k stD, hrun J.view steps src (1 + k) freshIter = (stD, stream steps.toList 0 src.rootNode) ∧ stD.act = .done ∧
      attempts (hrun J.view steps src (1 + k) freshIter).2 = attempts (stream steps.toList 0 src.rootNode) := by
  obtain ⟨k, stD, h1, h2⟩ := full_run steps src hq
  exact ⟨k, stD, h1, h2, by rw [h1]⟩

/-- once exhausted the machine spends one action per further `next()` and emits nothing but
`stop` -/
theorem exhausted_is_idle {α} (view : α → View α) (steps : Array (Step α)) (src : Src α) (k : Nat) (st : St α)
    (h : st.act = .done) : hrun view steps src k st = (st, List.replicate k .stop) := by
  induction k with
  | zero => rfl
  | succ k ih => simp [hrun, action, h, ih, List.replicate_succ]

/-- **work bound**: on every finite JSON tree, the number of match attempts of the search (the
trace events of the search itself; a predicate's nested search is bounded by its own
instance of this theorem) is at most **twice** the number of node/step examinations the
path's definition requires -/
theorem attempts_at_most_twice_examinations (p : List (Step J)) (hp : PredsStamped p) (vi : Nat) (n : MNode J) :
    attemptsTop (stream p vi n) ≤ 2 * exams p n :=
  work_bound p hp vi n

/-- … and that is the work the traverser really does: its complete run emits that stream -/
theorem machine_work_bound (steps : Array (Step J)) (src : Src J) (hq : Quiet steps.toList)
    (hp : PredsStamped steps.toList) :
    ∃ k stD, (hrun J.view steps src (1 + k) freshIter).1 = stD ∧ stD.act = .done ∧
      attemptsTop (hrun J.view steps src (1 + k) freshIter).2 ≤ 2 * exams steps.toList src.rootNode := by
  obtain ⟨k, stD, h1, h2⟩ := full_run steps src hq
  refine ⟨k, stD, by rw [h1], h2, ?_⟩
  rw [h1]
  exact work_bound _ hp 0 _

/-- **never re-scans, restarts**: on a document whose dicts have unique keys, no match attempt of
the search — identified by the step's index, the location of the node it is applied to and
the location it arrives at (or its failure) — is made twice, for every path of keys, indices,
slices, wildcards and filters with at most one recursive step (no parent step and no comma
list: those may legitimately visit a node by several routes / ask for an entry twice) -/
theorem no_attempt_is_made_twice (p : List (Step J)) (d : J) (hd : d.WFK) (hp : okShape p = true)
    (hs : PredsStamped p) : (topKeys (stream p 0 (.root d))).Nodup :=
  (stream_keys p hp hs 0 (.root d) hd).1

/-- the premises are met by ordinary paths and documents, and the limits of the statement are
real: with two recursive steps the same attempt *is* made twice (`$.a.b` is reached below `$.a` and as a member of `$.a`) -/
example : okShape [Step.key "a", .recur, .idxWc] = true := by decide
example : (topKeys (stream [.recur, .keyWc] 0 (.root (.obj [("a", .obj [("b", .int 1)])])))).length = 10 := by decide
example : ¬ (topKeys (stream [.recur, .keyWc, .recur] 0 (.root (.obj [("a", .obj [("b", .obj [("c", .int 1)])])])))).Nodup := by decide

/-- … and that is what the traverser does: the trace of its complete run (to exhaustion, or
through the first exception a predicate raises) holds no attempt twice -/
theorem machine_never_rescans (steps : Array (Step J)) (d : J) (hd : d.WFK) (hc : PredsClean steps)
    (hp : okShape steps.toList = true) (hs : PredsStamped steps.toList) :
    ∃ k, (topKeys (hrun J.view steps (.doc d) k freshIter).2).Nodup ∧
      ((hrun J.view steps (.doc d) k freshIter).1.act = .done ∨
       ∃ e evs', action J.view steps (.doc d) (hrun J.view steps (.doc d) k freshIter).1 =
          ((hrun J.view steps (.doc d) k freshIter).1, evs', .raised e)) := by
  have hnd := no_attempt_is_made_twice steps.toList d hd hp hs
  rcases full_run_x steps (.doc d) hc with ⟨_, k, stD, h1, h2⟩ | ⟨e, _, k, stU, evs', h1, h2, _⟩
  · exact ⟨k, by rw [h1]; exact hnd, .inl (by rw [h1]; exact h2)⟩
  · refine ⟨k, ?_, .inr ⟨e, evs', by rw [h1]; exact h2⟩⟩
    rw [h1]
    exact (topKeys_ttr_sublist _).nodup hnd

/-- the same for a search started from a Match (`find_matches(q, m)`): no attempt twice either -/
theorem machine_never_rescans_from_a_match (steps : Array (Step J)) (m : MNode J) (hd : m.data.WFK) (hc : PredsClean steps)
    (hp : okShape steps.toList = true) (hs : PredsStamped steps.toList) :
    ∃ k, (topKeys (hrun J.view steps (.nested m) k freshIter).2).Nodup := by
  have hnd := (stream_keys steps.toList hp hs 0 (.imag m) hd).1
  rcases full_run_x steps (.nested m) hc with ⟨_, k, stD, h1, _⟩ | ⟨e, _, k, stU, evs', h1, _, _⟩
  · exact ⟨k, by rw [h1]; exact hnd⟩
  · exact ⟨k, by rw [h1]; exact (topKeys_ttr_sublist _).nodup hnd⟩

/-- when the budget is used up `__next__` signals `InfiniteLoopDetected`: the case `limit = 0` of
`next`, which is defined by structural recursion on the budget (so a call performs at most
`limit` actions by construction — that is the definition, not this theorem) -/
theorem budget_exhausted_signals {α} (view : α → View α) (steps : Array (Step α)) (src : Src α) (st : St α) :
    (next view steps src 0 st).2.2 = .raised .loopDetected := rfl

theorem budget_value : Generated.loopBudget = 1000000 := by decide

/-- **pacing**: a `next()` that ends in `InfiniteLoopDetected` has performed `limit` actions
of which at least `(limit - 3) / 3` were match attempts — the counter only runs out while the
search keeps attempting matches (generic in the document type: trees, object stores, cyclic
graphs) -/
theorem loop_detected_means_work {α} (view : α → View α) (steps : Array (Step α)) (src : Src α)
    (hq : ∀ st s1 e1 e, action view steps src st ≠ (s1, e1, .raised e))
    (limit : Nat) (st : St α) (as : AS α) (hR : R steps st as) (st' : St α) (evs : List (Ev α))
    (h : next view steps src limit st = (st', evs, .raised .loopDetected)) :
    ∃ E, evs = E ++ [.raised .loopDetected] ∧ limit ≤ 3 + 3 * attemptsTop E := by
  obtain ⟨E, h1, _, h3⟩ := next_loop_paces view steps src limit st as hR st' evs h
  have := as.pot_le
  exact ⟨E, h1, by omega⟩

/-- **on a finite tree the budget is never the reason a search fails**: with the real budget
(generated from the source), if `6 · exams + 3` is below it, no `next()` call of the whole
iteration raises `InfiniteLoopDetected` -/
theorem budget_not_hit_on_trees (steps : Array (Step J)) (src : Src J) (hq : Quiet steps.toList)
    (hp : PredsClean steps) (hs : PredsStamped steps.toList)
    (hb : 6 * exams steps.toList src.rootNode + 3 < Generated.loopBudget)
    (st' st'' : St J) (rs : List (MNode J)) (E evs : List (Ev J))
    (hy : Yields J.view steps src Generated.loopBudget freshIter rs E st') :
    next J.view steps src Generated.loopBudget st' ≠ (st'', evs, .raised .loopDetected) := by
  have hwork := work_bound steps.toList hs 0 src.rootNode
  exact no_loop_under_budget steps src hq hp _ (by omega) st' st'' rs E evs hy

/-- … so the whole iteration, as `list(find_matches(...))` sees it, is the definition's
answer: terminates, no error, nothing missing, nothing twice -/
theorem drain_is_definition (steps : Array (Step J)) (src : Src J) (hq : Quiet steps.toList)
    (hp : PredsClean steps) (hs : PredsStamped steps.toList)
    (hb : 6 * exams steps.toList src.rootNode + 3 < Generated.loopBudget) (fuel : Nat)
    (hf : (eval steps.toList src.rootNode).length < fuel) :
    drain ({ view := J.view, toJ := id } : Ctx J) steps src fuel freshIter = (eval steps.toList src.rootNode, none) :=
  drain_is_eval steps src { view := J.view, toJ := id } rfl hq hp hs hb fuel freshIter [] [] _ (.nil _) (by simp) hf

/-- non-vacuity of the budget premise: a three-element document under `$[*]` -/
example : 6 * exams [Step.idxWc] (.root (.arr [.int 1, .int 2, .int 3])) + 3 < Generated.loopBudget := by decide

section anystructure
variable {α : Type} (view : α → View α) (steps : Array (Step α)) (src : Src α)

/-- the states an iterator can be in: those the bisimulation relates to a well-formed state of
the stack machine -/
def Reachable (st : St α) : Prop := ∃ as, R steps st as ∧ Good steps as

theorem fresh_is_reachable : Reachable steps (freshIter : St α) := ⟨.init, .init _ rfl, trivial⟩

/-- a reachable state stays reachable across `next()` — whatever the call's outcome -/
theorem next_keeps_reachable (limit : Nat) (st : St α) (h : Reachable steps st) :
    Reachable steps (next view steps src limit st).1 := by
  obtain ⟨as, hR, hg⟩ := h
  exact (next_inv view steps src (Good steps) (fun sg => ∀ m, sg ≠ .bug m) (astep_good view steps src)
    (fun _ h => nomatch h) limit st as hR hg).1

/-- **a `next()` call never hangs and never falls off the state machine, on any structure** —
finite tree, object store or cyclic graph: from every reachable state it ends, after at most
`limit` actions (it is defined by structural recursion on the budget), in a result,
`StopIteration`, or an exception — the predicate's `TraversingError`, or `InfiniteLoopDetected`
when the budget ran out; and (`loop_detected_means_work`) the budget only runs out while match
attempts are being made -/
theorem every_next_ends_in_an_outcome (limit : Nat) (st : St α) (h : Reachable steps st) :
    (∃ n, (next view steps src limit st).2.2 = .result n) ∨ (next view steps src limit st).2.2 = .stop ∨
    (∃ e, (next view steps src limit st).2.2 = .raised e) := by
  obtain ⟨as, hR, hg⟩ := h
  rcases hn : next view steps src limit st with ⟨st', evs, sig⟩
  cases sig with
  | result n => exact .inl ⟨n, rfl⟩
  | stop => exact .inr (.inl rfl)
  | raised e => exact .inr (.inr ⟨e, rfl⟩)
  | none => exact absurd hn (next_not_none view steps src limit st st' evs)
  | bug m => exact absurd hn (next_no_bug view steps src limit st as hR hg st' evs m)

/-- … hence so does every call of a whole history of `next()` calls on one iterator -/
theorem every_call_of_a_history_ends (limit : Nat) : ∀ (k : Nat) (st : St α), Reachable steps st →
    Reachable steps (Nat.rec st (fun _ s => (next view steps src limit s).1) k) := by
  intro k
  induction k with
  | zero => intro st h; exact h
  | succ k ih => intro st h; exact next_keeps_reachable view steps src limit _ (ih st h)

end anystructure

end Treepath.C20
