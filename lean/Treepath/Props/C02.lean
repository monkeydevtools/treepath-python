import Treepath.Proofs.DriveX
import Treepath.Proofs.EvalLemmas
import Treepath.Proofs.NodeLemmas
import Treepath.Proofs.Distinct
/- C02 — recursive descent visits every node once, in document pre-order -/
namespace Treepath.C02

/-- As the last step, `rec` yields the context container followed by all its descendants —
containers and scalars alike — in document pre-order; containers are reported through their
(invisible) bookkeeping node, scalars as themselves. -/
theorem rec_last (n : MNode J) :
    evalE [.recur] n = ((recNodes n).map (fun m => if m.data.isContainer then .imag m else m), none) := by
  simp only [evalE]
  induction recNodes n with
  | nil => rfl
  | cons m ms ih =>
    rw [seqFlat_cons', ih, List.map_cons]
    by_cases h : m.data.isContainer
    · rw [if_pos h, if_pos h]; rfl
    · rw [if_neg h, if_neg h]; rfl

/-- the locations and values reported by a trailing `rec` are exactly those of the pre-order
listing (bookkeeping nodes erased) -/
theorem rec_last_erased (n : MNode J) :
    (eval [.recur] n).map MNode.erase = (recNodes n).map MNode.erase := by
  simp only [eval, rec_last, List.map_map]
  apply List.map_congr_left
  intro m _
  by_cases h : m.data.isContainer <;> simp [h]

/-- a scalar context yields nothing, whatever follows -/
theorem rec_scalar_context (rest : List (Step J)) (n : MNode J) (h : n.data.isContainer = false) :
    evalE (.recur :: rest) n = ([], none) := by
  simp [evalE, recNodes, h]

/-- followed by further steps, the remainder of the path is evaluated at the context
container and then at every descendant *container*, in the same pre-order, the results
concatenated in that order -/
theorem rec_then (s : Step J) (rest : List (Step J)) (n : MNode J) :
    evalE (.recur :: s :: rest) n =
      seqFlat (fun m => evalE (s :: rest) (.imag m)) ((recNodes n).filter (fun m => m.data.isContainer)) := by
  simp only [evalE, List.isEmpty_cons]
  induction recNodes n with
  | nil => rfl
  | cons m ms ih =>
    rw [seqFlat_cons', ih, List.filter_cons]
    by_cases h : m.data.isContainer
    · rw [if_pos h, if_pos h, seqFlat_cons']
    · rw [if_neg h, if_neg h]; rfl

/-- pre-order: a container comes first, then the sub-listings of its members in insertion /
index order -/
theorem preorder_obj (n : MNode J) (kvs : List (String × J)) :
    preNodes n (.obj kvs) = n :: preKvs n kvs := by simp [preNodes]

theorem preorder_arr (n : MNode J) (xs : List J) :
    preNodes n (.arr xs) = n :: preXs n 0 xs := by simp [preNodes]

theorem preorder_members (n : MNode J) (k : String) (v : J) (rest : List (String × J)) :
    preKvs n ((k, v) :: rest) = preNodes (.child n (.key k) v) v ++ preKvs n rest := by simp [preKvs]

theorem preorder_items (n : MNode J) (i : Nat) (x : J) (rest : List J) :
    preXs n i (x :: rest) = preNodes (.child n (.idx i) x) x ++ preXs n (i+1) rest := by simp [preXs]

/-- **the traverser performs the pre-order descent.**  For every JSON tree and every path of
child, parent and recursive steps (recursive steps in any position, any number of them),
driving the pointer-faithful machine until `StopIteration` yields exactly `eval steps root`
— in which a recursive step contributes the context container and its descendants in document
pre-order (`rec_last`, `rec_then`).  The builder rejects adjacent recursive steps;
that is not even needed here. -/
theorem machine_descends_in_preorder (steps : Array (Step J)) (src : Src J)
    (hff : ∀ s ∈ steps.toList, s.supported = true ∧ ∀ f, s ≠ .filter f)
    (limit : Nat) (st' st'' : St J) (rs : List (MNode J)) (E evs : List (Ev J))
    (hy : Yields J.view steps src limit freshIter rs E st')
    (hstop : next J.view steps src limit st' = (st'', evs, .stop)) :
    rs = eval steps.toList src.rootNode :=
  (congrArg Prod.fst (exhausted_all_x steps src (clean_of_filterFree steps fun s hs => (hff s hs).2)
    limit st' st'' rs E evs hy hstop)).symm

/-- **each exactly once**, the "at most once" half: a trailing `rec` reports pairwise distinct
locations (document with unique keys per dict); that every descendant is reported is read off
`rec_last` and the pre-order listing -/
theorem rec_each_once (d : J) (hd : d.WFK) : ((eval [.recur] (.root d)).map MNode.loc).Nodup :=
  locations_distinct_any_predicate [.recur] d hd (.inr ⟨[], [], rfl, by simp, by simp⟩)

/-- … also below a prefix of plain steps and in front of further plain steps: the remainder is
evaluated once per container, never twice at one location -/
theorem rec_nested_once (pre post : List (Step J)) (d : J) (hd : d.WFK) (hq : Quiet (pre ++ .recur :: post))
    (hpre : ∀ s ∈ pre, s.plain = true) (hpost : ∀ s ∈ post, s.plain = true) :
    ((eval (pre ++ .recur :: post) (.root d)).map MNode.loc).Nodup :=
  locations_distinct _ d hd hq (.inr ⟨pre, post, rfl, hpre, hpost⟩)

/-- non-vacuity: ragged document with empty containers -/
example : (eval [.recur] (.root (.obj [("a", .arr [.int 1, .obj []]), ("e", .obj []), ("f", .null)]))).map MNode.pathStr
    = ["$", "$.a", "$.a[0]", "$.a[1]", "$.e", "$.f"] := by decide

example : (eval [.recur, .idx 0] (.root (.arr [.arr [.int 7], .int 3]))).map MNode.pathStr
    = ["$[0]", "$[0][0]"] := by decide

end Treepath.C02
