import Treepath.Proofs.RefoldApi
import Treepath.Proofs.HeapSearch
/- C08 — set_ assigns exactly one slot, or fails without a trace -/
namespace Treepath.C08

/-- success: exactly one object of the store is written (every other object keeps identity,
value and position), nothing is allocated, and the returned match holds `v` itself;
failure (SetError or an error raised while locating the parent): the store is unchanged. -/
theorem set_one_slot_or_nothing (stepsOf : Heap → List (Step Val)) (src : Src Val) (h h' : Heap) (v : Val)
    (r : Except ApiErr (MNode Val)) (hr : setMatch stepsOf src false h v = (h', r)) :
    (∀ e, r = .error e → h' = h) ∧
    (∀ m, r = .ok m → m.data = v ∧ h'.size = h.size ∧ ∃ id : Nat, ∀ j : Nat, j ≠ id → h'[j]? = h[j]?) :=
  setMatchN_nocascade hr

/-- a successful `vertex.set` at a parent match `pm` (in `set_`: the first match of the parent
path) writes the container `pm` holds and no other object, and the match it returns is a child
of `pm` holding `v` (which child: `set_key`, `set_index_*` below) -/
theorem set_writes_parent_container (h h' : Heap) (s : Step Val) (pm m : MNode Val) (v : Val)
    (hs : vertexSet h s pm v = .ok (h', m)) :
    ∃ (id : Nat) (nm : Name), pm.data = .ref id ∧ m = .child pm nm v ∧ h'.size = h.size ∧
      ∀ j : Nat, j ≠ id → h'[j]? = h[j]? :=
  vertexSet_frame hs

/-- key on a dict: afterwards the dict holds `v` under `k`, every other key keeps its value
and position, a new key goes to the end -/
theorem set_key (h : Heap) (k : String) (pm : MNode Val) (v : Val) (id : Nat) (es : List (String × Val))
    (hd : pm.data = .ref id) (ho : h[id]? = some (.dict es)) :
    vertexSet h (.key k) pm v = .ok (hput h id (.dict (dictSet es k v)), .child pm (.key k) v) ∧
    (dictSet es k v).lookup k = some v ∧ (∀ k', k' ≠ k → (dictSet es k v).lookup k' = es.lookup k') ∧
    dictErase (dictSet es k v) k = dictErase es k := by
  refine ⟨vertexSet_key k v hd ho, dictSet_lookup_self .., fun k' hk => dictSet_lookup_other hk,
    dictSet_erase ..⟩

/-- index on a list, in range (negative allowed): the item is replaced, the length and every
other item are unchanged -/
theorem set_index_in_range (h : Heap) (i : Int) (pm : MNode Val) (v : Val) (id kk : Nat) (xs : List Val)
    (hd : pm.data = .ref id) (ho : h[id]? = some (.list xs)) (hn : normIndex xs.length i = some kk) :
    vertexSet h (.idx i) pm v = .ok (hput h id (.list (xs.set kk v)), .child pm (.idx i) v) := by
  rw [vertexSet_idx i v hd ho, hn]

/-- index equal to the length: the value is appended -/
theorem set_index_append (h : Heap) (pm : MNode Val) (v : Val) (id : Nat) (xs : List Val)
    (hd : pm.data = .ref id) (ho : h[id]? = some (.list xs)) :
    vertexSet h (.idx xs.length) pm v = .ok (hput h id (.list (xs ++ [v])), .child pm (.idx xs.length) v) :=
  vertexSet_of_write (nm := .idx xs.length) hd (.append ho)

/-- index beyond the end or below `-len`: SetError -/
theorem set_index_out_of_range (h : Heap) (i : Int) (pm : MNode Val) (v : Val) (id : Nat) (xs : List Val)
    (hd : pm.data = .ref id) (ho : h[id]? = some (.list xs)) (hn : normIndex xs.length i = none)
    (hne : i ≠ xs.length) : vertexSet h (.idx i) pm v = .error .setError := by
  rw [vertexSet_idx i v hd ho, hn]
  exact if_neg hne

/-- key on a list, index on a dict, any step on a scalar, any other last step: SetError -/
theorem set_key_on_list (h : Heap) (k : String) (pm : MNode Val) (v : Val) (id : Nat) (xs : List Val)
    (hd : pm.data = .ref id) (ho : h[id]? = some (.list xs)) : vertexSet h (.key k) pm v = .error .setError := by
  simp [vertexSet, hd, ho]

theorem set_index_on_dict (h : Heap) (i : Int) (pm : MNode Val) (v : Val) (id : Nat) (es : List (String × Val))
    (hd : pm.data = .ref id) (ho : h[id]? = some (.dict es)) : vertexSet h (.idx i) pm v = .error .setError := by
  simp [vertexSet, hd, ho]

theorem set_other_step (h : Heap) (s : Step Val) (pm : MNode Val) (v : Val)
    (hs : match s with | .key _ | .idx _ => False | _ => True) : vertexSet h s pm v = .error .setError := by
  cases s <;> simp_all [vertexSet]

/-- the root cannot be assigned: SetError, store unchanged (fix F3) -/
theorem set_root (stepsOf : Heap → List (Step Val)) (src : Src Val) (cascade : Bool) (h : Heap) (v : Val)
    (hroot : stepsOf h = []) : setMatch stepsOf src cascade h v = (h, .error .setError) := by
  simp [setMatch, hroot, setMatchN]

/-- histories: any sequence of (non-cascading) assignments never allocates or removes objects -/
theorem history_size (ops : List ((Heap → List (Step Val)) × Val)) (src : Src Val) (h : Heap) :
    (ops.foldl (fun h op => (setMatch op.1 src false h op.2).1) h).size = h.size := by
  induction ops generalizing h with
  | nil => rfl
  | cons op ops ih =>
    simp only [List.foldl_cons]
    rw [ih]
    rcases hr : setMatch op.1 src false h op.2 with ⟨h', r⟩
    obtain ⟨he, hok⟩ := set_one_slot_or_nothing op.1 src h h' op.2 r hr
    cases r with
    | error e => simp [he e rfl]
    | ok m => exact (hok m rfl).2.1

/-- **"inside the first node matched by the parent path"**, against the definition: when a
non-cascading `set_` succeeds, the new match is a child of a node `pm` of the object store,
and `pm` is — location for location, value unfolding to value — the *first result of the
step-by-step definition* of the parent path evaluated on the JSON tree the document unfolds
to.  (Naturality of the traverser in the document type + the exception-faithful refinement;
the steps over the heap and over the tree are the same steps, filters being related
predicates.) -/
theorem set_parent_is_the_definitions_first (stepsOf : Heap → List (Step Val)) (root : Val) (j : J)
    (n : Nat) (h h' : Heap) (v : Val) (m : MNode Val) (hu : Unf h root j)
    (sb : Array (Step J)) (hsteps : LRel (StepRel (Unf h)) ((stepsOf h).take n) sb.toList) (hp : PredsClean sb)
    (hset : setMatchN stepsOf (.doc root) false (n+1) h v = (h', .ok m)) :
    ∃ pm pm' nm, m = .child pm nm v ∧ NodeRel (Unf h) pm pm' ∧ (evalE sb.toList (.root j)).1.head? = some pm' := by
  obtain ⟨last, pm, _, hg, hvs⟩ := setMatchN_ok hset
  obtain ⟨pm', hrel, hhead⟩ :=
    getMatch_heap_found h root j hu ((stepsOf h).take n).toArray sb hsteps hp true pm hg
  obtain ⟨_, nm, _, hm, _⟩ := set_writes_parent_container _ _ _ _ _ _ hvs
  exact ⟨pm, pm', nm, hm, hrel, hhead⟩

/-- the premise of the theorem above is met by every document the correspondence runs on: a
document loaded into the object store unfolds to the JSON it was loaded from -/
theorem loaded_document_meets_the_premise (h : Heap) (j : J) : Unf (allocJ h j).1 (allocJ h j).2 j :=
  (allocJ_spec h j).2

/-- non-vacuity, computed: a two-level document -/
example : (match (allocJ #[] (.obj [("a", .arr [.int 1]), ("b", .null)])).2 with | .ref 1 => true | _ => false) = true := by decide

/-- **exactly one slot, said on the tree**: on a document that is a tree (`DocInv`: it unfolds
to `j`, no container object is reachable along two paths, dict keys are unique), a successful
non-cascading `set_` of a value `v ~ jv` that shares no object with the document makes the
document unfold to `J.setAt j pm.loc nm jv` — `j` with `jv` under the last name inside the
node at the location of the first match `pm` of the parent path, every other part of `j` as it
was — and the document is again such a tree. -/
theorem set_is_one_tree_update (stepsOf : Heap → List (Step Val)) (root : Val) (j jv : J) (n : Nat) (h h' : Heap)
    (v : Val) (m : MNode Val) (hi : DocInv h root j)
    (hv : UnfJ h jv v) (hvn : (fpJ h jv v).Nodup) (hfresh : ∀ x ∈ fpJ h jv v, x ∉ fpJ h j root)
    (hset : setMatchN stepsOf (.doc root) false (n+1) h v = (h', .ok m)) :
    ∃ pm nm j', m = .child pm nm v ∧ J.setAt j pm.loc nm jv = some j' ∧ DocInv h' root j' := by
  obtain ⟨pm, nm, j', e1, _, e2, e3, _⟩ := setMatch_refines stepsOf root j jv n h h' v m hi hv hvn hfresh hset
  exact ⟨pm, nm, j', e1, e2, e3⟩

/-- … and that location is the location of the *definition's* first result for the parent
path on the tree `j` (naturality of the traverser + genuineness of its matches) -/
theorem set_updates_the_definitions_location (stepsOf : Heap → List (Step Val)) (root : Val) (j jv : J) (n : Nat)
    (h h' : Heap) (v : Val) (m : MNode Val) (hi : DocInv h root j)
    (hv : UnfJ h jv v) (hvn : (fpJ h jv v).Nodup) (hfresh : ∀ x ∈ fpJ h jv v, x ∉ fpJ h j root)
    (sb : Array (Step J)) (hsteps : LRel (StepRel (Unf h)) ((stepsOf h).take n) sb.toList) (hp : PredsClean sb)
    (hset : setMatchN stepsOf (.doc root) false (n+1) h v = (h', .ok m)) :
    ∃ pm' nm j', (evalE sb.toList (.root j)).1.head? = some pm' ∧ J.setAt j pm'.loc nm jv = some j' ∧
      DocInv h' root j' := by
  obtain ⟨pm, nm, j', _, hg, e2, e3, _⟩ := setMatch_refines stepsOf root j jv n h h' v m hi hv hvn hfresh hset
  obtain ⟨pm', hrel, hhead⟩ := getMatch_heap_found h root j hi.unf ((stepsOf h).take n).toArray sb hsteps hp true pm hg
  exact ⟨pm', nm, j', hhead, by rw [← hrel.loc]; exact e2, e3⟩

/-- assigning a JSON value (loaded into the store by the call): only unique keys are assumed of it -/
theorem set_of_a_json_value (stepsOf : Heap → List (Step Val)) (root : Val) (j jv : J) (n : Nat) (h h' : Heap)
    (m : MNode Val) (hi : DocInv h root j) (hjv : jv.WFK)
    (hset : setMatchN stepsOf (.doc root) false (n+1) (allocJ h jv).1 (allocJ h jv).2 = (h', .ok m)) :
    ∃ pm nm j', m = .child pm nm (allocJ h jv).2 ∧ J.setAt j pm.loc nm jv = some j' ∧ DocInv h' root j' :=
  set_fresh_refines stepsOf root j jv n h h' m hi hjv hset

/-- a loaded JSON document (unique keys per object) is such a tree -/
theorem loaded_document_is_a_tree (j : J) (hj : j.WFK) : DocInv (allocJ #[] j).1 (allocJ #[] j).2 j :=
  loaded_inv j hj

/-- **histories**: any sequence of `set_` (of JSON values) and `pop` operations, successful or
not, keeps the document a tree — aliasing never appears, so the one-slot theorems apply at
every step -/
theorem histories_keep_the_document_a_tree (root : Val) (ops : List WOp) (hops : ∀ op ∈ ops, op.valuesWF)
    (h : Heap) (j : J) (hi : DocInv h root j) : ∃ j', DocInv (ops.foldl (WOp.run root) h) root j' :=
  Treepath.histories_keep_the_document_a_tree root ops hops h j hi

/-- the tree-level update, computed: `set_(path.a[1], 5, {"a": [1], "b": null})` -/
example : J.setAt (.obj [("a", .arr [.int 1]), ("b", .null)]) [.key "a"] (.idx 1) (.int 5)
    = some (.obj [("a", .arr [.int 1, .int 5]), ("b", .null)]) := by
  simp [J.setAt, J.updateAt, childAt, J.view, List.lookup, J.setName, normIndex, J.putChild, kvsSet]

end Treepath.C08
