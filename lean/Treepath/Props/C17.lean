import Treepath.Proofs.DriveX
import Treepath.Proofs.Drive
import Treepath.Model.Has
import Treepath.Proofs.MachineLemmas
import Treepath.Proofs.LeafEvents
/- C17 — tracing observes without interfering -/
namespace Treepath.C17
variable {α : Type}

/-- the candidate under test is stamped on every event of the nested search, and an event
that already carries a (deeper) candidate keeps it: the innermost candidate wins -/
theorem stamp_innermost (c c' : MNode α) (e : Ev α) :
    Ev.stampIfNone c (Ev.stampIfNone c' e) = Ev.stampIfNone c' e := by
  cases e with
  | attempt l vi nx st => cases st <;> rfl
  | _ => rfl

/-- stamping never changes what an event says about the attempt itself -/
theorem stamp_keeps_attempt (c : MNode α) (l : MNode α) (vi : Nat) (nx st : Option (MNode α)) :
    ∃ st', Ev.stampIfNone c (.attempt l vi nx st) = .attempt l vi nx st' := by
  cases st <;> exact ⟨_, rfl⟩

/-- one trace event per `match_action`, emitted after the vertex ran, carrying what the vertex
returned: in every event `next_match` is what `next_vertex.match(last_match)` produced -/
theorem attempt_reports_vmatch (view : α → View α) (steps : Array (Step α)) (st : St α) (c : Nat) (tm : TM α)
    (s : Step α) (hs : steps[tm.vidx]? = some s) (st' : St α) (q : Nat) (evs : List (Ev α))
    (hv : vmatch view st c tm (tm.vidx + 1) s = .ok st' (some q) evs) :
    (matchAction view steps st c tm).2.1 =
      evs ++ [.attempt tm.node (tm.vidx + 1) ((st'.heap[q]?).map (·.node)) none] := by
  simp [matchAction, hs, hv]

theorem failed_attempt_reports_none (view : α → View α) (steps : Array (Step α)) (st : St α) (c : Nat) (tm tm' : TM α)
    (s : Step α) (hs : steps[tm.vidx]? = some s) (st' : St α) (evs : List (Ev α))
    (hv : vmatch view st c tm (tm.vidx + 1) s = .ok st' none evs) (hc : st'.heap[c]? = some tm') :
    (matchAction view steps st c tm).2.1 = evs ++ [.attempt tm.node (tm.vidx + 1) none none] := by
  simp [matchAction, hs, hv, hc]

/-- **the trace is the specification's stream.**  The complete run of the machine emits, event
for event, `stream steps 0 root`: one `attempt` per `match_action` carrying what the vertex
returned, the predicate's own (stamped) events in place, results in place. -/
theorem trace_is_stream (steps : Array (Step J)) (src : Src J) (hq : Quiet steps.toList) :
    ∃ k stD, hrun J.view steps src (1 + k) freshIter = (stD, stream steps.toList 0 src.rootNode) ∧ stD.act = .done :=
  full_run steps src hq

/-- … and with predicates that raise: the trace is the stream through its first `raised`
event (nothing is traced after the exception; the iterator is stuck in the action that raises) -/
theorem trace_is_stream_any_predicate (steps : Array (Step J)) (src : Src J) (hp : PredsClean steps) :
    (firstRaise (stream steps.toList 0 src.rootNode) = none ∧
      ∃ k stD, hrun J.view steps src k freshIter = (stD, stream steps.toList 0 src.rootNode) ∧ stD.act = .done) ∨
    (∃ e, firstRaise (stream steps.toList 0 src.rootNode) = some e ∧
      ∃ k stU evs', hrun J.view steps src k freshIter = (stU, takeThroughRaise (stream steps.toList 0 src.rootNode)) ∧
        action J.view steps src stU = (stU, evs', .raised e) ∧ firstRaise evs' = some e) :=
  full_run_x steps src hp

/-- a result is immediately preceded by the attempt that produced it — stated for the path that
consists of one key, index or parent step: its stream is `[attempt n _ (some n'), result n']`
(for every path: `leaf_events_are_the_results` below) -/
theorem result_follows_its_attempt (s : Step J) (hc : s.cls = .single) (vi : Nat) (n n' : MNode J)
    (h : singleOf J.view s n = some n') :
    stream [s] vi n = [.attempt n (vi+1) (some n') none, .result n'] := by
  simp [stream, hc, h]

/-- **leaf events ↔ results**: "the events delivered outside filter evaluation that attempted the
path's last step and succeeded correspond one-to-one, in order, to the results yielded" — in the
specification's stream of any non-empty path (every step kind, recursion included) whose
predicates keep to themselves (their own attempts are stamped with the candidate, they emit no
results of the outer search: true of the has-family and of custom predicates that search from
the Match they receive) -/
theorem leaf_events_are_the_results (p : List (Step J)) (hne : p ≠ []) (hs : PredsStamped p) (hsil : PredsSilent p)
    (n : MNode J) : leafHits p.length (stream p 0 n) = resultsOf (stream p 0 n) := by
  simpa using leaf_hits_are_results p hne hs hsil 0 n

/-- … and in the trace of the machine's complete run (predicates that do not raise) -/
theorem machine_leaf_events_are_the_results (steps : Array (Step J)) (src : Src J) (hq : Quiet steps.toList)
    (hne : steps.toList ≠ []) (hs : PredsStamped steps.toList) (hsil : PredsSilent steps.toList) :
    ∃ k stD, (hrun J.view steps src (1 + k) freshIter).1 = stD ∧ stD.act = .done ∧
      leafHits steps.size (hrun J.view steps src (1 + k) freshIter).2 =
        resultsOf (hrun J.view steps src (1 + k) freshIter).2 := by
  obtain ⟨k, stD, h1, h2⟩ := full_run steps src hq
  refine ⟨k, stD, by rw [h1], h2, ?_⟩
  rw [h1]
  have := leaf_events_are_the_results steps.toList hne hs hsil src.rootNode
  simpa using this

/-- … and with predicates that raise: the trace of the run through the first exception (the
iterator is then stuck in the action that raises) still pairs every leaf event with a result -/
theorem machine_leaf_events_are_the_results_any_predicate (steps : Array (Step J)) (src : Src J) (hp : PredsClean steps)
    (hne : steps.toList ≠ []) (hs : PredsStamped steps.toList) (hsil : PredsSilent steps.toList) :
    ∃ k, leafHits steps.size (hrun J.view steps src k freshIter).2 = resultsOf (hrun J.view steps src k freshIter).2 ∧
      ((hrun J.view steps src k freshIter).1.act = .done ∨
       ∃ e evs', action J.view steps src (hrun J.view steps src k freshIter).1 =
          ((hrun J.view steps src k freshIter).1, evs', .raised e)) := by
  have hx := leaf_hits_are_results_x steps.toList hne hs hsil 0 src.rootNode
  have hall := leaf_hits_are_results steps.toList hne hs hsil 0 src.rootNode
  simp only [Nat.zero_add, Array.length_toList] at hx hall
  rcases full_run_x steps src hp with ⟨_, k, stD, h1, h2⟩ | ⟨e, _, k, stU, evs', h1, h2, _⟩
  · exact ⟨k, by rw [h1]; exact hall, .inl (by rw [h1]; exact h2)⟩
  · exact ⟨k, by rw [h1]; exact hx, .inr ⟨e, evs', by rw [h1]; exact h2⟩⟩

/-- the statement is not vacuous, and it counts what it should: `$.a[*]` over two members -/
example : leafHits 2 (stream [Step.key "a", .idxWc] 0 (.root (.obj [("a", .arr [.int 1, .int 2])]))) =
    [.child (.child (.root (.obj [("a", .arr [.int 1, .int 2])])) (.key "a") (.arr [.int 1, .int 2])) (.idx 0) (.int 1),
     .child (.child (.root (.obj [("a", .arr [.int 1, .int 2])])) (.key "a") (.arr [.int 1, .int 2])) (.idx 1) (.int 2)] := by
  rfl

end Treepath.C17
