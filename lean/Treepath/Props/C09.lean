import Treepath.Proofs.Cascade
/- C09 — cascade creates the missing containers and only those -/
namespace Treepath.C09

/-- **Cascade frame.**  Whatever the outcome of `set_(p, v, doc, cascade=True)`:
no object is removed, at most one pre-existing object is written, every other pre-existing
object is untouched, and on success the returned match holds `v` itself.  (Which object that
is — the deepest container that already existed — and what the new ones hold is said on the
tree: `cascade_is_the_tree_cascade`.) -/
theorem cascade_frame (stepsOf : Heap → List (Step Val)) (src : Src Val) (h h' : Heap) (v : Val)
    (r : Except ApiErr (MNode Val)) (hr : setMatch stepsOf src true h v = (h', r)) :
    h.size ≤ h'.size ∧ (∃ id0 : Nat, ∀ j : Nat, j < h.size → j ≠ id0 → h'[j]? = h[j]?) ∧
    (∀ m, r = .ok m → m.data = v) :=
  setMatchN_cascade_frame hr

/-- the containers created for missing levels are an empty dict before a key step and an
empty list before an index step — fresh objects (new identity) — and nothing else of the
store is touched by their creation -/
theorem created_containers (h : Heap) (s : Step Val) :
    (∀ j : Nat, j < h.size → (defaultValueFor h s).1[j]? = h[j]?) ∧ h.size ≤ (defaultValueFor h s).1.size ∧
    (∀ id : Nat, (defaultValueFor h s).2 = .ref id → id = h.size ∧
       ((defaultValueFor h s).1[id]? = some (.dict []) ∨ (defaultValueFor h s).1[id]? = some (.list []))) :=
  defaultValueFor_spec h s

theorem dict_before_key (h : Heap) (k : String) :
    defaultValueFor h (.key k) = (h.push (.dict []), .ref h.size) := rfl

theorem list_before_index (h : Heap) (i : Int) :
    defaultValueFor h (.idx i) = (h.push (.list []), .ref h.size) := rfl

/-- a freshly created list can only be appended to: index 0 succeeds, any other index is
SetError -/
theorem new_list_only_appends (h : Heap) (i : Int) (pm : MNode Val) (v : Val) (id : Nat)
    (hd : pm.data = .ref id) (ho : h[id]? = some (.list [])) :
    vertexSet h (.idx i) pm v = if i = 0 then .ok (hput h id (.list [v]), .child pm (.idx i) v) else .error .setError := by
  rw [vertexSet_idx i v hd ho, show normIndex ([] : List Val).length i = none by simp [normIndex]]
  rfl

/-- a freshly created dict holds exactly the one entry the path names -/
theorem new_dict_one_entry (k : String) (v : Val) : dictSet [] k v = [(k, v)] := rfl

/-- an existing level of the wrong type is never overwritten to make room: SetError from
`vertex.set`, and that call leaves the store as it is -/
theorem wrong_type_not_overwritten (h : Heap) (k : String) (pm : MNode Val) (v : Val)
    (hd : ∀ id es, pm.data = .ref id → h[id]? ≠ some (.dict es)) :
    vertexSet h (.key k) pm v = .error .setError := by
  cases hr : vertexSet h (.key k) pm v with
  | error e => rw [vertexSet_error hr]
  | ok r =>
    obtain ⟨id, nm, o, hpd, hs, hw, _⟩ := vertexSet_ok hr
    cases hw <;> cases hs
    exact absurd ‹_› (hd id _ hpd)

/-- `get(p, doc, default=v, store_default=True)` on a missing path is the same cascade and
returns `v` -/
theorem store_default_is_cascade (stepsOf : Heap → List (Step Val)) (src : Src Val) (h : Heap) (v : Val)
    (hmiss : getMatch (wcx h) (stepsOf h).toArray src false = .ok none) :
    getStoreDefault stepsOf src v h =
      match setMatch stepsOf src true h v with
      | (h', .ok _) => (h', .ok v)
      | (h', .error e) => (h', .error e) := by
  simp only [getStoreDefault, hmiss]
  rcases setMatch stepsOf src true h v with ⟨h', r⟩
  cases r <;> rfl

/-- and on an existing path it stores nothing and returns what is there -/
theorem store_default_found (stepsOf : Heap → List (Step Val)) (src : Src Val) (h : Heap) (v : Val) (m : MNode Val)
    (hfound : getMatch (wcx h) (stepsOf h).toArray src false = .ok (some m)) :
    getStoreDefault stepsOf src v h = (h, .ok m.data) := by
  simp [getStoreDefault, hfound]

/-- **the written slot reads back** ("so that get(p, doc) is v afterwards", for the last step):
after any successful `vertex.set` — plain or at the end of a cascade — applying the same last
step to the same parent match in the new store finds the new match, which holds `v` itself -/
theorem written_slot_reads_back (h h' : Heap) (s : Step Val) (pm m : MNode Val) (v : Val)
    (hs : vertexSet h s pm v = .ok (h', m)) : singleOf (hview h') s pm = some m ∧ m.data = v := by
  obtain ⟨id, nm, o, hd, rfl, hw, rfl, rfl⟩ := vertexSet_ok hs
  exact ⟨by rw [singleOf_nameStepV, hd, hw.childAt]; rfl, rfl⟩

/-- **the whole statement, on the tree**: on a document that is a tree (`DocInv`), a successful
`set_(p, v, doc, cascade=True)` along a path `p` of keys and indices makes the document unfold to
`J.cascadeAt j p jv` — every level that exists reused, for each missing level (and only for
those) an empty dict before a key / an empty list before an index, `jv` stored at the end —
the returned match sits at `p` holding `v` itself, and the document is again such a tree
(`CascadeOut`: also what the store looks like for any value that shares nothing with it). -/
theorem cascade_is_the_tree_cascade (root : Val) (names : List Name) (h h' : Heap) (v : Val) (m : MNode Val) (j jv : J)
    (hi : DocInv h root j) (hv : UnfJ h jv v) (hvn : (fpJ h jv v).Nodup) (hfresh : ∀ x ∈ fpJ h jv v, x ∉ fpJ h j root)
    (hset : setMatch (fun _ => names.map nameStepV) (.doc root) true h v = (h', .ok m)) :
    ∃ j', J.cascadeAt j names jv = some j' ∧ CascadeOut root h h' j j' jv v m names := by
  simp only [setMatch, List.length_map] at hset
  have := cascade_refines root names names.length h h' v m j jv (Nat.le_refl _) hi hv hvn hfresh hset
  simpa using this

/-- **`get(p, doc)` is `v` afterwards** -/
theorem after_cascade_the_value_is_there (ns : List Name) (j j' v : J) (h : J.cascadeAt j ns v = some j') :
    walk J.view j' ns = some v :=
  cascadeAt_reads_back ns j j' v h

/-- when every level exists the cascade is the plain assignment (nothing is created) … -/
theorem cascade_reuses_what_exists (ns : List Name) (j : J) (nm : Name) (v c : J) (hw : walk J.view j ns = some c) :
    J.cascadeAt j (ns ++ [nm]) v = J.setAt j ns nm v :=
  cascade_snoc_found ns j nm v c hw

/-- … and when a level is missing, the missing levels are created down to an empty container
of the kind the last name needs, then the value is assigned in it -/
theorem cascade_creates_what_is_missing (ns : List Name) (j : J) (nm : Name) (v : J) (hne : ns ≠ [])
    (hw : walk J.view j ns = none) :
    J.cascadeAt j (ns ++ [nm]) v = (J.cascadeAt j ns (emptyFor nm)).bind (fun j1 => J.setAt j1 ns nm v) :=
  cascade_snoc_missing ns j nm v hne hw

/-- a newly created container holds exactly the one entry the path names; a new list can
only be appended to -/
theorem new_container_holds_one_entry (nm : Name) (v : J) :
    J.cascadeAt (emptyFor nm) [nm] v =
      match nm with
      | .key k => some (.obj [(k, v)])
      | .idx i => if i = 0 then some (.arr [v]) else none :=
  cascade_into_new_container nm v

/-- computed: `set_(path.a.b[0], 7, {"x": 1}, cascade=True)` -/
example : J.cascadeAt (.obj [("x", .int 1)]) [.key "a", .key "b", .idx 0] (.int 7)
    = some (.obj [("x", .int 1), ("a", .obj [("b", .arr [.int 7])])]) := by
  simp [J.cascadeAt, childAt, J.view, List.lookup, emptyFor, J.setName, kvsSet, normIndex]

end Treepath.C09
