import Treepath.Proofs.ApiLemmas
import Treepath.Proofs.NodeLemmas
import Treepath.Proofs.RoundTrip
import Treepath.Proofs.Distinct
import Treepath.Proofs.StepLemmas
/- C11 — a Match tells the truth about where its value lives -/
namespace Treepath.C11
variable {α : Type}

/-- no parent step was used to reach the node -/
def parFree : MNode α → Bool
  | .root _ => true
  | .child p _ _ => parFree p
  | .imag p => parFree p
  | .par _ _ => false

/-- induction over the matches reached without a parent step: the root, a child of such a
match, a bookkeeping twin of such a match -/
theorem parFree_induction {motive : (n : MNode α) → parFree n = true → Prop} (root : ∀ d, motive (.root d) rfl)
    (child : ∀ p nm d (h : parFree p = true), motive p h → motive (.child p nm d) h)
    (imag : ∀ p (h : parFree p = true), motive p h → motive (.imag p) h) : ∀ n h, motive n h
  | .root d, _ => root d
  | .child p nm d, h => child p nm d h (parFree_induction root child imag p h)
  | .imag p, h => imag p h (parFree_induction root child imag p h)

/-- `path_as_str` is `'$'` followed by the `.key` / `[index]` segments of the location -/
theorem segs_of_loc (n : MNode α) (h : parFree n = true) : n.segs = "$" :: n.loc.map MNode.nameSeg := by
  induction n, h using parFree_induction with
  | root d => rfl
  | child p nm d _ ih => simp [MNode.segs, MNode.loc, ih]
  | imag p _ ih => exact ih

theorem pathStr_of_loc (n : MNode α) (h : parFree n = true) :
    n.pathStr = "$" ++ String.join (n.loc.map MNode.nameSeg) := by
  simp only [MNode.pathStr, segs_of_loc n h, String.join, List.foldl_cons]
  rw [foldl_append_init]
  simp

/-- `path_match_list` runs from the root to the match: it starts with the root … -/
theorem pathMatchList_head (n : MNode α) (h : parFree n = true) :
    ∃ d rest, n.pathMatchList = MNode.root d :: rest := by
  induction n, h using parFree_induction with
  | root d => exact ⟨d, [], rfl⟩
  | child p nm d _ ih =>
    obtain ⟨d', rest, hr⟩ := ih
    exact ⟨d', rest ++ [.child p nm d], by rw [MNode.pathMatchList, hr]; rfl⟩
  | imag p _ ih => exact ih

/-- … ends with the match itself (up to bookkeeping nodes) … -/
theorem pathMatchList_last (n : MNode α) (h : parFree n = true) :
    (n.pathMatchList.getLast?).map MNode.erase = some n.erase := by
  induction n, h using parFree_induction with
  | root d => rfl
  | child p nm d _ _ => simp [MNode.pathMatchList]
  | imag p _ ih => exact ih

/-- … has one element per level of the location … -/
theorem pathMatchList_length (n : MNode α) (h : parFree n = true) :
    n.pathMatchList.length = n.loc.length + 1 := by
  induction n, h using parFree_induction with
  | root d => rfl
  | child p nm d _ ih => simp [MNode.pathMatchList, MNode.loc, ih]
  | imag p _ ih => exact ih

/-- … and the names of its elements after the root are the location -/
theorem pathMatchList_names (n : MNode α) (h : parFree n = true) :
    n.pathMatchList.map MNode.dataName = .key "$" :: n.loc := by
  induction n, h using parFree_induction with
  | root d => rfl
  | child p nm d _ ih => simp [MNode.pathMatchList, MNode.loc, MNode.dataName, ih]
  | imag p _ ih => exact ih

/-- every element of the chain below the root is a `child` node whose `parent` is the
previous element: `element.data` is what was read from `element.parent.data[element.data_name]`
when the match was created -/
theorem pathMatchList_links (n : MNode α) (h : parFree n = true) :
    ∀ m ∈ n.pathMatchList, (∃ d, m = .root d) ∨ (∃ p nm d, m = .child p nm d ∧ m.parent = some p) := by
  induction n, h using parFree_induction with
  | root d => exact fun m hm => .inl ⟨d, List.mem_singleton.mp hm⟩
  | child p nm d _ ih =>
    intro m hm
    rcases List.mem_append.mp hm with hm | hm
    · exact ih m hm
    · exact .inr ⟨p, nm, d, List.mem_singleton.mp hm, by rw [List.mem_singleton.mp hm]; rfl⟩
  | imag p _ ih => exact ih

/-- **round trip**: `get_match(m.path, document)` finds the same location holding the same
value: evaluating the explicit key / index path of a match whose chain is consistent with
the document, from the document root, yields exactly that match (bookkeeping nodes erased) -/
theorem get_match_of_path_finds_it (n : MNode J) (hc : Consistent n) :
    evalE (toPath n) (rootOf n) = ([n.erase], none) :=
  roundtrip n hc

/-- key, index and filter steps keep the chain consistent with the document: the value of a
selected node is what reading the parent's value at the node's name gives -/
theorem single_steps_keep_consistency (s : Step J) (n m : MNode J) (hn : Consistent n)
    (hs : match s with | .key _ | .idx _ | .filter _ => True | _ => False)
    (hm : m ∈ (evalStep s n).1) : Consistent m := by
  cases s with
  | key k | idx i =>
    obtain ⟨nm, x, hx, rfl⟩ := singleOf_child J.view _ n m rfl (Option.mem_toList.mp hm)
    exact ⟨hn, (lookupName_eq_childAt _ _).trans hx⟩
  | filter f =>
    cases List.mem_singleton.mp ((evalStep_filter f n).subset hm)
    exact hn
  | _ => cases hs

/-- the key wildcard on a dict without duplicate keys (as every Python dict) keeps consistency -/
theorem keyWc_keeps_consistency (n m : MNode J) (hn : Consistent n) (hk : n.data.KeysNodup)
    (hm : m ∈ (evalStep .keyWc n).1) : Consistent m := by
  cases hi : itemsOf .keyWc n.data.view with
  | ok its =>
    rw [evalStep_items _ n its rfl hi] at hm
    obtain ⟨_, hp, rfl⟩ := List.mem_map.mp hm
    cases hd : n.data <;> rw [hd] at hi hk <;> cases hi
    obtain ⟨⟨k, x⟩, hkx, rfl⟩ := List.mem_map.mp hp
    exact ⟨hn, by rw [hd]; exact lookup_of_mem_uniq _ k x hkx hk⟩
  | wrongKind => rw [evalStep_wrongKind _ n rfl hi] at hm; cases hm
  | valueError => rw [evalStep_valueError _ n rfl hi] at hm; cases hm

/-- **a query with at most one recursive step and no comma-delimited step never reports the
same location twice**: for every document whose dicts have unique keys (hereditarily — what
Python dicts guarantee), every path built from keys, indices, slices, the three wildcards and
value-returning filters, with at most one `rec` anywhere, the locations of the answer are
pairwise distinct.  (With a comma list `path["a","a"]`, or two recursive steps, repeats are
the specified behaviour.) -/
theorem never_the_same_location_twice (p : List (Step J)) (d : J) (hd : d.WFK) (hq : Quiet p)
    (hshape : (∀ s ∈ p, s.plain = true) ∨
      ∃ pre post, p = pre ++ Step.recur :: post ∧ (∀ s ∈ pre, s.plain = true) ∧ (∀ s ∈ post, s.plain = true)) :
    ((eval p (.root d)).map MNode.loc).Nodup :=
  locations_distinct p d hd hq hshape

/-- non-vacuity: the premises hold of a real document and a path with a wildcard before and
after the recursive step -/
example : (J.obj [("a", .arr [.int 1, .obj [("b", .int 2)]]), ("c", .obj [])]).WFK := by
  simp [J.WFK, J.WFKvs, J.WFList]

/-- … and the restriction is needed: two recursive steps report a location twice -/
example : ((eval [.recur, .keyWc, .recur] (.root (.obj [("a", .obj [("b", .obj [("c", .int 1)])])]))).map MNode.pathStr)
    = ["$.a", "$.a.b", "$.a.b.c", "$.a.b", "$.a.b.c"] := by decide

/-- the model's `matchEq` satisfies the recursive equation `Match.__eq__` is written as:
`self.data == other.data and self.data_name == other.data_name and self.parent == other.parent`,
with `None == None` and a match never equal to `None` -/
theorem matchEq_is_the_recursion (a b : MNode J) :
    matchEq a b = (J.pyEq a.data b.data && (a.dataName == b.dataName) &&
      (match a.parent, b.parent with
       | none, none => true
       | some p, some q => matchEq p q
       | _, _ => false)) := by
  simp only [matchEq]
  rw [ndChain_unfold a, ndChain_unfold b]
  cases ha : a.parent <;> cases hb : b.parent <;> simp only [ndChainEq]
  · rename_i q; rw [ndChain_unfold q]; simp [ndChainEq]
  · rename_i p; rw [ndChain_unfold p]; simp [ndChainEq]

/-- for matches of a parent-free path the chain `==` walks is `path_match_list`, last element
first -/
theorem ndChain_is_pathMatchList (n : MNode J) (h : parFree n = true) :
    n.ndChain = (n.pathMatchList.map fun m => (m.dataName, m.data)).reverse := by
  induction n with
  | root d => rfl
  | child p nm d ih =>
    simp [MNode.ndChain, MNode.pathMatchList, MNode.dataName, MNode.data, ih (by simpa [parFree] using h)]
  | imag p ih => simpa [MNode.ndChain, MNode.pathMatchList] using ih (by simpa [parFree] using h)
  | par r f _ _ => simp [parFree] at h

/-- **two Match objects compare equal iff their chains carry the same data_names and equal
data at every level**: `==` is the element-wise comparison (Python `==` on the data, identity
of the names) of the two `path_match_list`s, of equal length -/
theorem eq_iff_chains (a b : MNode J) (ha : parFree a = true) (hb : parFree b = true) :
    matchEq a b = ndChainEq (a.pathMatchList.map fun m => (m.dataName, m.data)).reverse
                            (b.pathMatchList.map fun m => (m.dataName, m.data)).reverse := by
  simp only [matchEq, ndChain_is_pathMatchList a ha, ndChain_is_pathMatchList b hb]

/-- non-vacuity: equal data under different names is not equal; equal chains are (an `int`
and the equal `float`, a bookkeeping twin on one side) -/
example : matchEq (.child (.root (.arr [.int 1, .int 1])) (.idx 0) (.int 1))
                  (.child (.root (.arr [.int 1, .int 1])) (.idx 1) (.int 1)) = false := by
  simp [matchEq, MNode.ndChain, ndChainEq]
example : matchEq (.child (.root (.arr [.int 1])) (.idx 0) (.int 1))
                  (.imag (.child (.root (.arr [.half 2])) (.idx 0) (.half 2))) = true := by
  simp [matchEq, MNode.ndChain, ndChainEq, J.pyEq, J.pyEqList, J.num2?]

end Treepath.C11
