import Treepath.Model.Builder
import Treepath.Generated.ExcMro
import Treepath.Proofs.LastStep
/- C16 — only the documented errors escape, and they can be printed -/
namespace Treepath.C16
variable {α : Type}

/-- an exception leaving `next()` (hence `find` / `find_matches` iterators) on a path of
supported steps is `TraversingError` wrapping the predicate's exception, or
`InfiniteLoopDetected` -/
theorem next_only_documented (view : α → View α) (steps : Array (Step α)) (src : Src α)
    (hsup : ∀ s ∈ steps.toList, s.supported = true) (limit : Nat) (st st' : St α) (evs : List (Ev α)) (e : Exc)
    (h : next view steps src limit st = (st', evs, .raised e)) : e.documented = true :=
  next_raised_documented view steps src hsup limit st st' evs e h

/-- `get_match` / `get` fail only with MatchNotFoundError (NestedMatchNotFoundError from a
Match) or a documented traversal error (`bug` marks the model's defensive branches: a `next()`
that ends without a signal) -/
theorem getMatch_only_documented (cx : Ctx α) (steps : Array (Step α)) (src : Src α) (mm : Bool)
    (hsup : ∀ s ∈ steps.toList, s.supported = true) (e : ApiErr) (h : getMatch cx steps src mm = .error e) :
    e = .matchNotFound ∨ e = .nestedMatchNotFound ∨ (∃ x, e = .exc x ∧ x.documented = true) ∨ (∃ m, e = .bug m) := by
  rw [getMatch_eq] at h
  cases hs : (next cx.view steps src cx.limit freshIter).2.2 <;> simp only [hs] at h
  case result => cases h
  case stop =>
    cases mm <;> cases h
    cases src with
    | doc _ => exact .inl rfl
    | nested _ => exact .inr (.inl rfl)
  case raised x =>
    cases h
    exact .inr (.inr (.inl ⟨x, rfl, next_raised_documented cx.view steps src hsup _ _ _ _ x (Prod.ext rfl (Prod.ext rfl hs))⟩))
  case none => cases h; exact .inr (.inr (.inr ⟨_, rfl⟩))
  case bug m => cases h; exact .inr (.inr (.inr ⟨_, rfl⟩))

/-- `vertex.set` fails only with SetError — key on a list, index on a dict, index out of
range, any other last step, scalar parent; never with a Python error -/
theorem vertexSet_only_setError (h : Heap) (s : Step Val) (pm : MNode Val) (v : Val) (e : ApiErr)
    (he : vertexSet h s pm v = .error e) : e = .setError :=
  vertexSet_error he

/-- **`set_` / `set_match` fail only with SetError or a documented traversal error** — for every
path length, with and without cascade (the recursion of the cascade included): a missing
parent is SetError (or is created), whatever the parent search raises is TraversingError /
InfiniteLoopDetected, the last vertex refuses with SetError.  (`bug` marks branches the model
keeps for totality: a path shorter than its own length, `must_match` returning nothing.) -/
theorem setMatch_only_documented (stepsOf : Heap → List (Step Val)) (src : Src Val)
    (hsup : ∀ h0, ∀ s ∈ stepsOf h0, s.supported = true) :
    ∀ (n : Nat) (cascade : Bool) (h h' : Heap) (v : Val) (e : ApiErr),
      setMatchN stepsOf src cascade n h v = (h', .error e) →
      e = .setError ∨ (∃ x, e = .exc x ∧ x.documented = true) ∨ (∃ m, e = .bug m) := by
  intro n cascade h h' v e he
  -- the cases of `setMatchN`: 1 = the root, 9 = parent missing without cascade (SetError);
  -- 2 = a path shorter than `n`, 5 = `must_match` returned nothing (`bug`); 3, 6 = success;
  -- 4, 7 = the last vertex refuses; 8 = the cascade's recursive call fails; 10 = the parent
  -- search fails with something other than not-found
  fun_induction setMatchN stepsOf src cascade n h v generalizing h' e with
  | case1 | case9 => cases he; exact .inl rfl
  | case2 | case5 => cases he; exact .inr (.inr ⟨_, rfl⟩)
  | case3 | case6 => cases he
  | case4 | case7 => cases he; exact .inl (vertexSet_error ‹_›)
  | case8 n h v last _ e0 _ _ h1 dv hdv h2 e2 hrec ih => cases he; exact ih _ _ hrec
  | case10 _ n h v last _ e0 hg hnf =>
    cases he
    rcases getMatch_only_documented (wcx h) ((stepsOf h).take n).toArray src true
      (fun s hs => hsup h s (List.mem_of_mem_take hs)) e0 hg with rfl | rfl | hx | hb
    · exact absurd rfl hnf
    · exact absurd rfl hnf
    · exact .inr (.inl hx)
    · exact .inr (.inr hb)

/-- `set_` / `set_match` aimed at the root: SetError (fix F3), with or without cascade -/
theorem set_root_is_setError (stepsOf : Heap → List (Step Val)) (src : Src Val) (cascade : Bool) (h : Heap) (v : Val)
    (hroot : stepsOf h = []) : (setMatch stepsOf src cascade h v).2 = .error .setError := by
  simp [setMatch, hroot, setMatchN]

/-- **`pop` / `pop_match` fail only with PopError, (Nested)MatchNotFoundError or a documented
traversal error** — on a store that unfolds to a tree: the `KeyError` / `IndexError` branches of
`vertex.pop` are dead, because the match `pop` has just found is a child named by the last step
that its parent's container still holds (`vertexPop_on_found`, through the specification:
`last_name_results`).  (`bug`: the defensive branches of the search, as in
`getMatch_only_documented`.) -/
theorem popMatch_only_documented (stepsOf : Heap → List (Step Val)) (root : Val) (j : J) (h h' : Heap)
    (hu : Unf h root j) (hwf : HeapWF h)
    (sb : Array (Step J)) (hsteps : LRel (StepRel (Unf h)) (stepsOf h) sb.toList) (hp : PredsClean sb)
    (hsup : ∀ s ∈ stepsOf h, s.supported = true) (mm : Bool) (e : ApiErr)
    (hpop : popMatch stepsOf (.doc root) mm h = (h', .error e)) :
    e = .popError ∨ e = .matchNotFound ∨ e = .nestedMatchNotFound ∨ (∃ x, e = .exc x ∧ x.documented = true) ∨
      (∃ m, e = .bug m) := by
  rcases (popMatch_error hpop).2 with hg | ⟨m, hg, hv⟩
  · exact .inr (getMatch_only_documented (wcx h) (stepsOf h).toArray (.doc root) mm hsup e hg)
  · exact .inl (vertexPop_on_found hu hwf (stepsOf h).toArray sb hsteps hp hg hv)

/-- `vertex.pop` without a last step — what `pop` / `pop_match` aimed at the root call — is
PopError (any other last step that is not a key or index: `C10.pop_unsupported`) -/
theorem pop_root_is_popError (h : Heap) (m : MNode Val) : vertexPop h none m = .error .popError := by
  simp [vertexPop]

/-- unsupported indices are rejected at construction with PathSyntaxError -/
theorem unsupported_index (st : VStore) (e : Expr) : getItem st e .other = .error .pathSyntax := rfl

theorem unsupported_tuple_member (st : VStore) (e : Expr) (items : List (Option Name)) (h : items.all Option.isSome = false) :
    getItem st e (.tuple items) = .error .pathSyntax := by
  simp [getItem, h]

/-- the exception hierarchy as found in the source (generated table): the not-found errors
are `LookupError`s, every library error is a `TreepathException`, and none of them is a
`KeyError`, `IndexError`, `TypeError` or `AttributeError` -/
theorem mro_facts :
    (∀ n ∈ ["MatchNotFoundError", "NestedMatchNotFoundError", "SetError", "PopError"],
        ∃ m, Generated.excMro.lookup n = some m ∧ "LookupError" ∈ m) ∧
    (∃ m, Generated.excMro.lookup "NestedMatchNotFoundError" = some m ∧ "MatchNotFoundError" ∈ m) ∧
    (∃ m, Generated.excMro.lookup "InfiniteLoopDetected" = some m ∧ "TraversingError" ∈ m) ∧
    (∃ m, Generated.excMro.lookup "StopTraversing" = some m ∧ "StopIteration" ∈ m) ∧
    (∀ p ∈ Generated.excMro, "TreepathException" ∈ p.2 ∧ "KeyError" ∉ p.2 ∧ "IndexError" ∉ p.2 ∧
        "TypeError" ∉ p.2 ∧ "AttributeError" ∉ p.2) := by
  decide

end Treepath.C16
