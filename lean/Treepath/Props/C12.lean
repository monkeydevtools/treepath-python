import Treepath.Proofs.DriveX
import Treepath.Proofs.EvalLemmas
import Treepath.Proofs.NodeLemmas
import Treepath.Proofs.Distinct
/- C12 — searching from a Match continues the original path -/
namespace Treepath.C12

/-- **Concatenation**: for `p` not ending in a recursive step, continuing the definition with `q`
from each result `m` of `p`, in order (`evalE q m`: from the node itself), yields the same
sequence of results as `p ++ q` from the start — the same nodes, hence the same locations,
values, absolute paths, parents and match lists — including the first exception, if any.  (A
search *started from a Match* evaluates from the bookkeeping node `imag m` instead:
`nested_machine`, `nested_root_transparent`.) -/
theorem concat (p q : List (Step J)) (hp : notEndsInRecur p = true) (n : MNode J) :
    evalE (p ++ q) n = bindRes (evalE p n) (evalE q) :=
  evalE_append p q hp n

/-- without exceptions this is plain `flatMap` -/
theorem concat_noraise (p q : List (Step J)) (hp : notEndsInRecur p = true) (n : MNode J)
    (h1 : (evalE p n).2 = none) (h2 : ∀ m ∈ (evalE p n).1, (evalE q m).2 = none) :
    eval (p ++ q) n = (eval p n).flatMap (eval q) := by
  simp only [eval, concat p q hp n, bindRes]
  rw [seqFlat_noraise h2]
  simp only [Res.append, List.append_nil]
  rfl

/-- the root of a search started from a Match `m` is the bookkeeping node `imag m`; it shows the
observables of `m`: the same data, absolute path, match list, parent and remembered parent -/
theorem nested_root_transparent (m : MNode J) :
    (MNode.imag m).data = m.data ∧ (MNode.imag m).pathStr = m.pathStr ∧
    (MNode.imag m).pathMatchList = m.pathMatchList ∧ (MNode.imag m).parent = m.parent ∧
    (MNode.imag m).remParent = m.remParent := by simp

/-- the nested traverser (search started from a Match `m`: `init_action` creates an imaginary
match whose real parent is `m`) yields exactly the definition evaluated from `imag m` -/
theorem nested_machine (steps : Array (Step J)) (m : MNode J) (hq : Quiet steps.toList) (hp : PredsClean steps)
    (limit : Nat) (st' st'' : St J) (rs : List (MNode J)) (E evs : List (Ev J))
    (hy : Yields J.view steps (.nested m) limit freshIter rs E st')
    (hstop : next J.view steps (.nested m) limit st' = (st'', evs, .stop)) :
    rs = eval steps.toList (.imag m) :=
  exhausted_all steps (.nested m) hq hp limit st' st'' rs E evs hy hstop

/-- a parent step at the start of `q` climbs above the Match the search started from -/
theorem climb_above_source (m t : MNode J) (h : m.remParent = some t) :
    evalStep .parent (.imag m) = ([.par t (.imag m)], none) := by
  simp [evalStep, Step.cls, singleOf, h]

example : (eval [.parent, .key "b"] (.imag (.child (.root (.obj [("a", .int 1), ("b", .int 2)])) (.key "a") (.int 1)))).map
    MNode.pathStr = ["$.a<-$.b"] := by decide

/-- **results obtained from a Match carry absolute locations**: for a quiet path of plain steps
(keys, indices, slices, wildcards, filters) evaluated from any node `n` — in particular from
the bookkeeping root of a search started from a Match — every result's location starts with
`n`'s own location, i.e. with the names from the document root down to the Match -/
theorem results_are_located_below_the_source (q : List (Step J)) (hp : ∀ s ∈ q, s.plain = true) (hq : Quiet q) :
    ∀ (n : MNode J), n.data.WFK → ∀ r ∈ eval q n, n.loc <+: r.loc ∧ r.data.WFK := by
  induction q with
  | nil => intro n hw r hr; simp [eval, evalE] at hr; subst hr; exact ⟨List.prefix_refl _, hw⟩
  | cons s rest ih =>
    intro n hw r hr
    have hs := hp s (by simp)
    rw [eval, evalE_cons_bind (plain_not_recur s hs), bindRes_fst] at hr
    obtain ⟨a, ha, hra⟩ := mem_seqFlat hr
    obtain ⟨h1, h2⟩ := evalStep_plain_below s hs n hw a ha
    obtain ⟨h3, h4⟩ := ih (fun t ht => hp t (List.mem_cons_of_mem _ ht)) (fun t ht => hq t (List.mem_cons_of_mem _ ht))
      a h2 r hra
    exact ⟨h1.trans h3, h4⟩

/-- … stated for the search from a Match `m` itself -/
theorem nested_results_are_absolute (q : List (Step J)) (hp : ∀ s ∈ q, s.plain = true) (hq : Quiet q)
    (m : MNode J) (hw : m.data.WFK) : ∀ r ∈ eval q (.imag m), m.loc <+: r.loc :=
  fun r hr => (results_are_located_below_the_source q hp hq (.imag m) hw r hr).1

end Treepath.C12
