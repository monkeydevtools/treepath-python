import Treepath.Proofs.DriveX
import Treepath.Proofs.Drive
import Treepath.Model.Api
import Treepath.Proofs.ApiLemmas
/- C05 — get, get_match and find are projections of find_matches -/
namespace Treepath.C05
variable {α : Type}

/-- `get_match` returns the first match `find_matches` yields -/
theorem getMatch_is_first (cx : Ctx α) (steps : Array (Step α)) (src : Src α) (mm : Bool) (n : MNode α)
    (h : getMatch cx steps src mm = .ok (some n)) (fuel : Nat) :
    (drain cx steps src (fuel+1) freshIter).1.head? = some n := by
  have hn := (getMatch_some cx steps src mm n).mp h
  unfold drain nextOut
  generalize next cx.view steps src cx.limit freshIter = r at hn ⊢
  obtain ⟨st', evs, sig⟩ := r
  cases hn
  rfl

/-- when `find_matches` yields nothing, `get_match` raises `MatchNotFoundError`
(`NestedMatchNotFoundError` when searching from a Match) or returns `None` -/
theorem getMatch_none (cx : Ctx α) (steps : Array (Step α)) (src : Src α) (mm : Bool)
    (st' : St α) (evs : List (Ev α)) (h : nextOut cx steps src freshIter = (st', evs, .stopIteration)) :
    getMatch cx steps src mm =
      if mm then .error (if src.isNested then .nestedMatchNotFound else .matchNotFound) else .ok none := by
  simp [getMatch, h]

/-- `get` returns the data of the first match; the default is not consulted, whatever the
value found (falsy values count as found) -/
theorem get_found (cx : Ctx α) (steps : Array (Step α)) (src : Src α) (d : Default α) (n : MNode α)
    (st' : St α) (evs : List (Ev α)) (h : nextOut cx steps src freshIter = (st', evs, .item n)) :
    get cx steps src d = .ok (n.data, 0) := by
  simp [get, getMatch, h]

/-- nothing found: `MatchNotFoundError` without a default, the constant, or the callable
default called exactly once -/
theorem get_default (cx : Ctx α) (steps : Array (Step α)) (src : Src α)
    (st' : St α) (evs : List (Ev α)) (h : nextOut cx steps src freshIter = (st', evs, .stopIteration)) :
    get cx steps src .notSet = .error (if src.isNested then .nestedMatchNotFound else .matchNotFound) ∧
    (∀ v, get cx steps src (.const v) = .ok (v, 0)) ∧
    (∀ f, get cx steps src (.callable f) = .ok (f (), 1)) := by
  simp [get, getMatch, h]

/-- on JSON trees, for every path, predicates that raise included: the first `next()` of a
fresh iterator (what `get_match` reads) answers with the first result of the definition, says
"not found" exactly when the definition finishes empty-handed, and raises exactly the exception
the definition raises before producing anything -/
theorem getMatch_is_definition_any_predicate (steps : Array (Step J)) (src : Src J) (hp : PredsClean steps)
    (limit : Nat) (st' : St J) (evs : List (Ev J)) :
    (∀ n, next J.view steps src limit freshIter = (st', evs, .result n) →
        (evalE steps.toList src.rootNode).1.head? = some n) ∧
    (next J.view steps src limit freshIter = (st', evs, .stop) → evalE steps.toList src.rootNode = ([], none)) ∧
    (∀ x, x ≠ .loopDetected → next J.view steps src limit freshIter = (st', evs, .raised x) →
        evalE steps.toList src.rootNode = ([], some x)) := by
  refine ⟨?_, ?_, ?_⟩
  · intro n hn
    obtain ⟨rest, hr⟩ := yields_prefix_x steps src hp limit st' [n] (evs ++ [])
      (.cons _ _ _ _ _ _ _ hn (.nil _))
    rw [hr]; rfl
  · intro hs
    exact exhausted_all_x steps src hp limit freshIter st' [] [] evs (.nil _) hs
  · intro x hx hr
    exact raises_x steps src hp limit freshIter st' [] [] evs x (.nil _) hr hx

/-- for quiet paths this reads: `get_match` returns the *first element of the definition's
answer*, and reports "not found" exactly when that answer is empty (budget not exhausted) -/
theorem getMatch_is_head_of_eval (steps : Array (Step J)) (src : Src J) (hq : Quiet steps.toList) (hp : PredsClean steps)
    (cx : Ctx J) (hv : cx.view = J.view) (st' : St J) (evs : List (Ev J)) :
    (∀ n, next cx.view steps src cx.limit freshIter = (st', evs, .result n) →
        (eval steps.toList src.rootNode).head? = some n) ∧
    (next cx.view steps src cx.limit freshIter = (st', evs, .stop) → eval steps.toList src.rootNode = []) := by
  rw [hv]
  obtain ⟨h1, h2, _⟩ := getMatch_is_definition_any_predicate steps src hp cx.limit st' evs
  exact ⟨h1, fun hs => congrArg Prod.fst (h2 hs)⟩

/-- what `get` answers when the definition's answer is `ans` -/
def getOf (isNested : Bool) (d : Default J) (ans : List (MNode J)) : Except ApiErr (J × Nat) :=
  match ans.head? with
  | some n => .ok (n.data, 0)
  | none =>
    match d with
    | .notSet => .error (if isNested then .nestedMatchNotFound else .matchNotFound)
    | .const v => .ok (v, 0)
    | .callable f => .ok (f (), 1)

/-- **`get` is a projection of the definition** — one equation, end to end: whenever the first
`next()` of the underlying iterator comes back with a result or with `StopIteration` (quiet
paths on JSON trees within the step budget always do), `get(expr, data, default)` is the data
of the head of the definition's answer, and the default (constant, or callable called exactly
once, or `MatchNotFoundError` / `NestedMatchNotFoundError`) exactly when that answer is empty —
whatever the value found: a falsy first result never falls through to the default -/
theorem get_is_projection_of_definition (steps : Array (Step J)) (src : Src J) (hq : Quiet steps.toList)
    (hp : PredsClean steps) (cx : Ctx J) (hv : cx.view = J.view) (d : Default J)
    (st' : St J) (evs : List (Ev J)) (sig : Sig J)
    (hn : next cx.view steps src cx.limit freshIter = (st', evs, sig))
    (hs : sig = .stop ∨ ∃ n, sig = .result n) :
    get cx steps src d = getOf src.isNested d (eval steps.toList src.rootNode) := by
  have H := getMatch_is_head_of_eval steps src hq hp cx hv st' evs
  rcases hs with rfl | ⟨n, rfl⟩
  · obtain ⟨g1, g2, g3⟩ := get_default cx steps src st' evs (by rw [nextOut, hn])
    rw [H.2 hn]
    cases d
    · exact g1
    · exact g2 _
    · exact g3 _
  · rw [get_found cx steps src d n st' evs (by rw [nextOut, hn]), getOf.eq_def, H.1 n hn]

/-- the falsy case of `getOf` (this file's description of what `get` answers), by `rfl` — neither
`get` nor the machine runs here: for the answer `[$.a ↦ 0]` and `default=7` it is `0`, not the
default -/
example : getOf false (.const (.int 7)) [MNode.child (.root (.obj [("a", .int 0)])) (.key "a") (.int 0)]
    = .ok (.int 0, 0) := rfl

end Treepath.C05
