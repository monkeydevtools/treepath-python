import Treepath.Spec.Has
import Treepath.Model.Fns
import Treepath.Proofs.EvalLemmas
import Treepath.Proofs.HasRefine
import Treepath.Proofs.HasRefineX
import Treepath.Proofs.Work
import Treepath.Proofs.Budget
/- C04 — has, has_all, has_any, has_not: existential tests and boolean algebra -/
namespace Treepath.C04

/-- `has(p)` holds at a node iff `p`, evaluated relative to that node, selects at least one
value (stated for a selection that raises nothing) -/
theorem has_exists (steps : List (Step J)) (c : MNode J) (h : (evalE steps (.imag c)).2 = none) :
    (hasS steps none [] c).res = .val (.bool (!(eval steps (.imag c)).isEmpty)) := by
  simp only [hasS, eval]
  rcases hr : evalE steps (.imag c) with ⟨ns, e⟩
  rw [hr] at h
  simp at h
  subst h
  cases ns <;> simp [firstSuccess, J.truthy, hasTest]

/-- functions are applied right-to-left: `f1(f2(x))` -/
theorem fns_right_to_left (f1 f2 : Fn) (x v w : J) (h2 : f2.run x = .ok v) (h1 : f1.run v = .ok w) :
    (applyFns (α := J) [f1, f2] x).2 = .ok w := by
  simp [applyFns, applyFnStep, h1, h2]

/-- the selected values are tried in selection order up to the first success -/
theorem first_success_head (test : J → List (Ev J) × Except Exc J) (n : MNode J) (ns : List (MNode J))
    (e : Option Exc) (evs : List (Ev J)) (v : J) (h : test n.data = (evs, .ok v)) (hv : v.truthy = true) :
    firstSuccess test (n :: ns) e = (evs, .val (.bool true)) := by
  simp [firstSuccess, h, hv]

theorem first_success_skip (test : J → List (Ev J) × Except Exc J) (n : MNode J) (ns : List (MNode J))
    (e : Option Exc) (evs : List (Ev J)) (v : J) (h : test n.data = (evs, .ok v)) (hv : v.truthy = false) :
    (firstSuccess test (n :: ns) e).2 = (firstSuccess test ns e).2 := by
  simp [firstSuccess, h, hv]

/-- `has_all()` is true, `has_any()` is false -/
theorem hasAll_nil (c : MNode J) : (hasAll ([] : List (Pred J)) c).res = .val (.bool true) := rfl
theorem hasAny_nil (c : MNode J) : (hasAny ([] : List (Pred J)) c).res = .val (.bool false) := rfl

/-- `has_all` is left-to-right short-circuit `and` -/
theorem hasAll_cons_falsy (p : Pred J) (ps : List (Pred J)) (c : MNode J) (j : J)
    (h : (p c).res = .val j) (hj : j.truthy = false) :
    hasAll (p :: ps) c = { evs := (p c).evs, res := .val (.bool false) } := by
  simp [hasAll, h, hj]

theorem hasAll_cons_truthy (p : Pred J) (ps : List (Pred J)) (c : MNode J) (j : J)
    (h : (p c).res = .val j) (hj : j.truthy = true) :
    (hasAll (p :: ps) c).res = (hasAll ps c).res := by
  simp [hasAll, h, hj]

/-- `has_any` is left-to-right short-circuit `or` -/
theorem hasAny_cons_truthy (p : Pred J) (ps : List (Pred J)) (c : MNode J) (j : J)
    (h : (p c).res = .val j) (hj : j.truthy = true) :
    hasAny (p :: ps) c = { evs := (p c).evs, res := .val (.bool true) } := by
  simp [hasAny, h, hj]

theorem hasAny_cons_falsy (p : Pred J) (ps : List (Pred J)) (c : MNode J) (j : J)
    (h : (p c).res = .val j) (hj : j.truthy = false) :
    (hasAny (p :: ps) c).res = (hasAny ps c).res := by
  simp [hasAny, h, hj]

/-- an argument that raises stops the evaluation: nothing to its right is evaluated -/
theorem hasAll_cons_raise (p : Pred J) (ps : List (Pred J)) (c : MNode J) (e : Exc)
    (h : (p c).res = .raise e) : hasAll (p :: ps) c = { evs := (p c).evs, res := .raise e } := by
  simp [hasAll, h]

theorem hasAny_cons_raise (p : Pred J) (ps : List (Pred J)) (c : MNode J) (e : Exc)
    (h : (p c).res = .raise e) : hasAny (p :: ps) c = { evs := (p c).evs, res := .raise e } := by
  simp [hasAny, h]

/-- `has_not` negates truthiness and lets exceptions through -/
theorem hasNot_val (p : Pred J) (c : MNode J) (j : J) (h : (p c).res = .val j) :
    (hasNot p c).res = .val (.bool (!j.truthy)) := by
  simp [hasNot, h]

/-- double negation is the identity on truthiness -/
theorem hasNot_hasNot (p : Pred J) (c : MNode J) (j : J) (h : (p c).res = .val j) :
    (hasNot (hasNot p) c).res = .val (.bool j.truthy) := by
  simp [hasNot, h, J.truthy]

example : (match (hasS [.idxWc] (some (cmpFn .gt (.int 1))) [⟨"neg", fnNeg⟩]
    (.root (.arr [.int 5, .int (-3)]))).res with | .val (.bool true) => true | _ => false) = true := by decide

/-- the JSON instance of the has-family's context (tree documents, real budget) -/
def cxJ : Ctx J := { view := J.view, toJ := id }

/-- **the traverser's `has` is the definition's `has`** (end to end, through the pointer
machine of the nested search): for every document, candidate, path of supported steps whose
own predicates return values, comparison operator and function chain, the predicate the
library builds returns what the existential first-success search over the definition's
answer returns — or an infrastructure outcome of the nested search (`IsInfra`: its action budget
or the model's loop fuel ran out, or a defensive branch of the model; excluded under an explicit
bound by `machine_has_is_definition_exact`). -/
theorem machine_has_is_definition (ss : List (Step J)) (hq : Quiet ss) (hp : PredsClean ss.toArray)
    (op : Option Fn) (fns : List Fn) (c : MNode J) :
    IsInfra (has cxJ ss op fns c).res ∨ (has cxJ ss op fns c).res = (hasS ss op fns c).res :=
  has_refines cxJ rfl rfl ss hq hp op fns c

/-- … **whatever the predicates inside the has-path do** (no premise on what they return:
they may raise on any candidate): value or exception, the library's `has` returns what the
definition's first-success search returns — an exception met while selecting surfaces after
exactly the values tried before it, never swallowed, never turned into "no match" -/
theorem machine_has_is_definition_any_predicate (ss : List (Step J)) (hp : PredsClean ss.toArray)
    (op : Option Fn) (fns : List Fn) (c : MNode J) :
    IsInfra (has cxJ ss op fns c).res ∨ (has cxJ ss op fns c).res = (hasS ss op fns c).res :=
  has_refines_x cxJ rfl rfl ss hp op fns c

/-- … and outright, with the budget made explicit: if the nested search's definition needs
fewer than `(budget - 3) / 6` examinations (and selects fewer values than the model's loop
fuel), the library's `has` returns exactly what the definition says -/
theorem machine_has_is_definition_exact (ss : List (Step J)) (hq : Quiet ss) (hp : PredsClean ss.toArray)
    (hs : PredsStamped ss) (op : Option Fn) (fns : List Fn) (c : MNode J)
    (hb : 6 * exams ss (.imag c) + 3 < Generated.loopBudget) (hf : (eval ss (.imag c)).length < cxJ.fuel) :
    (has cxJ ss op fns c).res = (hasS ss op fns c).res :=
  has_exact cxJ rfl rfl ss hq hp hs op fns c hb hf

/-- for filter-free paths of supported steps no side condition is left -/
theorem machine_has_is_definition_filterFree (ss : List (Step J))
    (h : ∀ s ∈ ss, s.supported = true ∧ ∀ f, s ≠ .filter f) (op : Option Fn) (fns : List Fn) (c : MNode J) :
    IsInfra (has cxJ ss op fns c).res ∨ (has cxJ ss op fns c).res = (hasS ss op fns c).res :=
  machine_has_is_definition_any_predicate ss (clean_of_filterFree ss.toArray fun s hs => (h s hs).2) op fns c

/-- has-predicates compose, for `has` itself: what a filter of the form `has(…)` emits never
contains a result, a `StopIteration` or a raise of the enclosing search, and all its match
attempts carry a candidate stamp — so a path whose filters are all of that form (not `has_not` /
`has_all` / `has_any` around it) meets the `PredsClean` premise of the theorems above and the
`PredsStamped` premise of the work bound (C20) -/
theorem has_filters_are_clean (ss : List (Step J))
    (h : ∀ s ∈ ss, ∀ f, s = .filter f → ∃ ss' op fns, f = has cxJ ss' op fns) : PredsClean ss.toArray := by
  intro s hs f hf n e he
  obtain ⟨ss', op, fns, rfl⟩ := h s hs f hf
  exact inner_isClean e (has_evs_inner cxJ ss' op fns n e he)

theorem has_filters_are_stamped (ss : List (Step J))
    (h : ∀ s ∈ ss, ∀ f, s = .filter f → ∃ ss' op fns, f = has cxJ ss' op fns) : PredsStamped ss := by
  intro s hs f hf n
  obtain ⟨ss', op, fns, rfl⟩ := h s hs f hf
  exact attemptsTop_of_inner _ (has_evs_inner cxJ ss' op fns n)

/-- non-vacuity: a nested has over a real document, decided through the machine -/
example : (match (has cxJ [.idxWc] (some (cmpFn .gt (.int 1))) [⟨"neg", fnNeg⟩]
    (.root (.arr [.int 5, .int (-3)]))).res with | .val (.bool true) => true | _ => false) = true := by decide

end Treepath.C04
