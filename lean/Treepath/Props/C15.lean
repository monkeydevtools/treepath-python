import Treepath.Proofs.BuilderLemmas
/- C15 — path expressions are immutable values with equivalent spellings -/
namespace Treepath.C15

/-- extending a path returns a *new* expression: its vertex is the one newly allocated, no entry
of an existing vertex is written, and the store stays well-formed -/
theorem extend_is_fresh (st : VStore) (hw : WF st) (e : Expr) (k : VKind) (he : e.v < st.size) :
    (∀ v : Nat, v < st.size → (extend st e k).1[v]? = st[v]?) ∧ (extend st e k).2.v = st.size ∧ WF (extend st e k).1 := by
  obtain ⟨h1, h2, h3, _⟩ := extend_wf st hw e k he
  exact ⟨h2, h3, h1⟩

/-- … and keeps its rendering: the rendering of an older expression is the same function of
its own chain before and after the extension -/
theorem extend_keeps_rendering (st : VStore) (hw : WF st) (e : Expr) (k : VKind) (v : Nat) (hv : v < st.size) :
    renderPure (extend st e k).1 v = renderPure st v :=
  renderPure_push st hw _ v hv

/-- rendering (which fills caches) returns the pure rendering of the expression's own steps
whatever was rendered, evaluated or derived before, and changes no step of any expression -/
theorem render_history_independent (st : VStore) (hw : WF st) (v : Nat) (hv : v < st.size) :
    (render st v).2 = renderPure st v ∧ WF (render st v).1 ∧ SameShape st (render st v).1 :=
  render_spec st hw v hv

/-- the step list handed to the traverser (which fills `_path_as_list`) is the expression's
own chain whatever the cache state: selection is history-independent too -/
theorem path_as_list_history_independent (st : VStore) (hw : WF st) (v : Nat) (hv : v < st.size) :
    (pathAsList st v).2 = chain st v ∧ WF (pathAsList st v).1 ∧ SameShape st (pathAsList st v).1 :=
  pathAsList_spec st hw v hv

/-- two stores of the same shape (differing only in caches) give the same vertex the same
rendering and the same traverser steps: what an expression means does not depend on which caches
have been filled -/
theorem same_shape_same_meaning {α} (preds : String → Pred α) (st st' : VStore) (h : SameShape st st') (v : Nat) :
    renderPure st' v = renderPure st v ∧ stepsOfExpr preds st' v = stepsOfExpr preds st v := by
  refine ⟨renderPure_sameShape h v, ?_⟩
  have : (fun u => kindToStep preds (kindOfV st' u)) = fun u => kindToStep preds (kindOfV st u) := by
    funext u; rw [kindOfV_congr (h u)]
  simp only [stepsOfExpr, chain_sameShape h, this]

/-- the generated tables contain the builder's own step-producing attributes (checked on the
tables regenerated from the source) -/
theorem reserved_names :
    (∀ n ∈ ["wc", "wildcard", "gwc", "generic_wildcard", "rec", "recursive", "parent", "shape"],
      n ∈ Generated.reservedAttrs ∧ n ∈ Generated.reservedAttrsDash) := by
  -- `decide` compares every name with every entry; here each name is found by `eq_self`
  simp only [List.forall_mem_cons, List.not_mem_nil, false_imp_iff, implies_true, and_true]
  simp only [Generated.reservedAttrs, Generated.reservedAttrsDash, List.mem_cons, eq_self, true_or, or_true, and_self]

/-- the attribute names the builder documents as its own: the step-producing properties, the
two hook methods and one class constant -/
def documentedAttrs : List String :=
  ["wc", "wildcard", "gwc", "generic_wildcard", "rec", "recursive", "parent", "shape",
   "create_path_builder", "transform_attribute_name", "_RESERVED_ATTR_FOR_VERTEX_DATA"]

/-- … and nothing else is taken away from the keys `path.k` can spell: every real attribute
of the builder classes (table regenerated from the source) is a documented one or a Python
protocol name (`__x__`).  A new method or class attribute on the builder silently turns
`path.<that name>` from a key step into something else. -/
theorem only_documented_names_are_reserved : ∀ n ∈ Generated.reservedPlain, n ∈ documentedAttrs := by
  simp only [Generated.reservedPlain, List.forall_mem_cons, List.not_mem_nil, false_imp_iff, implies_true, and_true]
  simp only [documentedAttrs, List.mem_cons, eq_self, true_or, or_true, and_self]

/-- `path.k` ≡ `path['k']` for every name that is not a real attribute of the builder
(the table of real attributes is generated from the source on every run) -/
theorem attr_eq_item (st : VStore) (e : Expr) (k : String) (hd : e.dash = false)
    (hr : Generated.reservedAttrs.contains k = false) :
    getAttr st e k = getItem st e (.str k) := by
  have hm : ¬ k ∈ Generated.reservedAttrs := by simpa using hr
  simp [getAttr, getItem, hd, hm, transformName]

/-- under `pathd`, attribute names have `_` replaced by `-`; item keys are never rewritten -/
theorem dash_attr_eq_item (st : VStore) (e : Expr) (k : String) (hd : e.dash = true)
    (hr : Generated.reservedAttrsDash.contains k = false) :
    getAttr st e k = getItem st e (.str (k.map fun ch => if ch = '_' then '-' else ch)) := by
  have hm : ¬ k ∈ Generated.reservedAttrsDash := by simpa using hr
  simp [getAttr, getItem, hd, hm, transformName]

/-- `path['s']` is the key step `s` as written (by definition of `getItem`) -/
theorem item_never_rewritten (st : VStore) (e : Expr) (s : String) :
    getItem st e (.str s) = .ok (extend st e (.key s)) := rfl

/-- the names of `reserved_names` are real attributes of whichever builder `e` came from -/
theorem reserved_in_either (e : Expr) (n : String)
    (hn : n ∈ ["wc", "wildcard", "gwc", "generic_wildcard", "rec", "recursive", "parent", "shape"]) :
    n ∈ if e.dash then Generated.reservedAttrsDash else Generated.reservedAttrs := by
  cases e.dash
  · exact (reserved_names n hn).1
  · exact (reserved_names n hn).2

theorem wc_eq_wildcard (st : VStore) (e : Expr) : getAttr st e "wc" = getAttr st e "wildcard" := by
  simp [getAttr, reserved_in_either e "wc" (by simp), reserved_in_either e "wildcard" (by simp)]

theorem gwc_eq_generic_wildcard (st : VStore) (e : Expr) : getAttr st e "gwc" = getAttr st e "generic_wildcard" := by
  simp [getAttr, reserved_in_either e "gwc" (by simp), reserved_in_either e "generic_wildcard" (by simp)]

theorem rec_eq_recursive (st : VStore) (e : Expr) : getAttr st e "rec" = getAttr st e "recursive" := by
  simp [getAttr, reserved_in_either e "rec" (by simp), reserved_in_either e "recursive" (by simp)]

/-- `.gwc` and `[gwc]` differ only in how they render (`.*` / `[*]`): they are the same
traverser step -/
theorem dot_gwc_same_step {α} (preds : String → Pred α) :
    kindToStep preds (.gwc true) = kindToStep preds (.gwc false) := rfl

/-- adjacent recursive steps are rejected at construction -/
theorem no_adjacent_rec (st : VStore) (e : Expr) (h : kindOfV st e.v = .recur) :
    getAttr st e "rec" = .error .pathSyntax := by
  simp [getAttr, h, reserved_in_either e "rec" (by simp)]

/-- attribute / item assignment on an expression is rejected — by construction of the model:
`setAttr` is the constant `AttributeError` -/
theorem assignment_rejected (st : VStore) (e : Expr) : setAttr st e = .attribute := rfl

/-- the concrete spelling claim of the property, on the generated tables -/
example : Generated.reservedAttrs.contains "k" = false ∧ Generated.reservedAttrsDash.contains "x_y_z" = false := by
  simp [Generated.reservedAttrs, Generated.reservedAttrsDash]

end Treepath.C15
