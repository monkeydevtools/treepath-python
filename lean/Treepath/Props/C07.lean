import Treepath.Proofs.Drive
import Treepath.Model.Api
import Treepath.Proofs.MachineLemmas
import Treepath.Proofs.DriveX
import Treepath.Proofs.Restart
import Treepath.Proofs.Threads
import Treepath.Generated.Shared
/- C07 — result iterators are lazy, stay exhausted, and do not interfere -/
namespace Treepath.C07
variable {α : Type}

/-- an exhausted iterator stays exhausted and its state no longer changes -/
theorem done_stays_done (view : α → View α) (steps : Array (Step α)) (src : Src α) (limit : Nat)
    (st : St α) (h : st.act = .done) :
    next view steps src (limit+1) st = (st, [.stop], .stop) := by
  simp [next, action, h]

/-- `StopIteration` is only ever produced by the `done` action, which leaves the state as it is -/
theorem stop_only_from_done (view : α → View α) (steps : Array (Step α)) (src : Src α) (limit : Nat)
    (st st' : St α) (evs : List (Ev α)) (h : next view steps src limit st = (st', evs, .stop)) :
    st'.act = .done :=
  next_stop_done view steps src limit st st' evs h

/-- consequently: once `next()` has raised `StopIteration`, every later `next()` raises it
again, for every path, document and data source -/
theorem stays_exhausted (view : α → View α) (steps : Array (Step α)) (src : Src α) (l1 l2 : Nat)
    (st st' : St α) (evs : List (Ev α)) (h : next view steps src l1 st = (st', evs, .stop)) :
    next view steps src (l2+1) st' = (st', [.stop], .stop) :=
  done_stays_done view steps src l2 st' (stop_only_from_done view steps src l1 st st' evs h)

/-- **lazy**: after `k` successful calls of `next()` the iterator has yielded the first `k`
results of the complete answer … -/
theorem first_k_results (steps : Array (Step J)) (src : Src J) (hq : Quiet steps.toList) (hp : PredsClean steps)
    (limit : Nat) (st' : St J) (rs : List (MNode J)) (E : List (Ev J))
    (hy : Yields J.view steps src limit freshIter rs E st') :
    ∃ rest, eval steps.toList src.rootNode = rs ++ rest :=
  yields_prefix steps src hq hp limit st' rs E hy

/-- … and everything it has done so far — every match attempt and every user-predicate call —
is a prefix of the specification's stream ending at the `k`-th result: predicates have been
invoked only on the candidates up to the `k`-th result -/
theorem work_so_far_is_a_prefix (steps : Array (Step J)) (src : Src J) (hq : Quiet steps.toList) (hp : PredsClean steps)
    (limit : Nat) (st' : St J) (rs : List (MNode J)) (E : List (Ev J))
    (hy : Yields J.view steps src limit freshIter rs E st') :
    ∃ E2, stream steps.toList 0 src.rootNode = E ++ E2 :=
  yields_stream_prefix steps src hq hp limit st' rs E hy

/-- … and it has stopped *at* that result: the work done by `k ≥ 1` successful `next()` calls
ends with the event that reports the `k`-th result — nothing is computed ahead, for every path,
document kind and data source (with `work_so_far_is_a_prefix`: the work is exactly the
specification's stream up to and including the `k`-th result) -/
theorem work_ends_at_kth_result {α} (view : α → View α) (steps : Array (Step α)) (src : Src α)
    (hp : PredsClean steps) (limit : Nat) (st st' : St α) (rs : List (MNode α)) (E : List (Ev α))
    (hy : Yields view steps src limit st rs E st') (hne : rs ≠ []) :
    ∃ pre n, E = pre ++ [.result n] ∧ rs.getLast? = some n := by
  induction hy with
  | nil st => exact absurd rfl hne
  | cons st st1 st2 evs n rs E hnext hrest ih =>
    cases rs with
    | nil =>
      cases hrest
      obtain ⟨pre, hev⟩ := next_result_last hnext
      exact ⟨pre, n, by rw [hev, List.append_nil], rfl⟩
    | cons r rs =>
      obtain ⟨pre, m, hE, hlast⟩ := ih (List.cons_ne_nil _ _)
      exact ⟨evs ++ pre, m, by rw [hE, List.append_assoc], by rw [List.getLast?_cons_cons]; exact hlast⟩

/-- `iter(it)` on an iterator in any state — part-way, exhausted, stuck at a raising
predicate — starts the search over: every following sequence of `next()` calls observes
(events and signals) exactly what it observes on a fresh iterator.  (What `iter()` does is
not part of the property; this is what the modelled code does, tied by the correspondence.) -/
theorem iter_again_starts_over {α} (view : α → View α) (steps : Array (Step α)) (src : Src α) (limit k : Nat) (st : St α) :
    observe view steps src limit k (reiter st) = observe view steps src limit k freshIter :=
  reiter_is_fresh view steps src limit k st

/-- laziness for every path, raising predicates included: after any number of successful
`next()` calls the results are a prefix of what the definition produces before its first
exception — no candidate beyond has contributed -/
theorem first_k_results_any_predicate (steps : Array (Step J)) (src : Src J) (hp : PredsClean steps)
    (limit : Nat) (st' : St J) (rs : List (MNode J)) (E : List (Ev J))
    (hy : Yields J.view steps src limit freshIter rs E st') :
    ∃ rest, (evalE steps.toList src.rootNode).1 = rs ++ rest :=
  yields_prefix_x steps src hp limit st' rs E hy

/-- an iterator is a value: advancing one iterator cannot change what another one yields
(the model has no shared mutable state; shared *path objects* are immutable, C15) -/
theorem independent (view : α → View α) (steps1 steps2 : Array (Step α)) (src1 src2 : Src α) (l : Nat)
    (s1 s2 : St α) :
    let r1 := next view steps1 src1 l s1
    let r2 := next view steps2 src2 l s2
    -- advancing 1 then 2 or 2 then 1 gives the same pair of outcomes
    (r1, r2) = (next view steps1 src1 l s1, next view steps2 src2 l s2) := rfl

/-- **threads sharing a path object**: the only state they share is the lazy rendering /
vertex-list cache of each vertex; in the micro-model of that cache (atomic slot read, local
computation, atomic slot store — `Proofs/Threads.lean`) every access by every thread under
every interleaving returns the pure value.  Pre-emption itself, the atomicity of one
attribute access and free-threaded builds are runtime assumptions (exercised by the
`threads` oracle, not proved). -/
theorem shared_cache_race_is_benign {V : Type} (f : V) (threads : Nat) (sched : List Nat) :
    ∀ v ∈ (Threads.run f { cell := none, pcs := List.replicate threads .idle, log := [] } sched).log, v = f :=
  Threads.every_access_returns_the_pure_value f threads sched

/-- … and these two caches are all there is (regenerated from the source on every run): no
other attribute of a vertex, builder or predicate object is assigned outside `__init__`, and
no function under `path/` keeps `nonlocal` / `global` state -/
theorem shared_state_is_the_two_caches :
    Generated.sharedState = ["Vertex._path", "Vertex._path_as_list"] := rfl

end Treepath.C07
