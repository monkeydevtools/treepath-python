import Treepath.Proofs.RefoldList
/- C19 — a list-typed attribute behaves as the underlying list -/
namespace Treepath.C19

/-- `keep_all` — whose implementation compacts the list in place while a live iterator is
reading the same list — retains exactly the elements satisfying the predicate, in their
original order, each passed through `to_json_value ∘ to_wrapped_value` -/
theorem keep_all_is_filter (c : Conv) (keep : Val → Bool) (xs : List Val) :
    keepAllList (keepFn c keep) xs = (xs.filter (fun x => keep (c.wrap x))).map (fun x => c.unwrap (c.wrap x)) := by
  rw [keepAllList_eq, filterMap_keepFn]

/-- `remove_all p` retains exactly the elements *not* satisfying `p` -/
theorem remove_all_is_filter (c : Conv) (rm : Val → Bool) (h : Heap) (id : Nat) (xs : List Val)
    (hl : listOf h id = some xs) :
    lRemoveAll c rm h id =
      some (hput h id (.list ((xs.filter (fun x => !rm (c.wrap x))).map (fun x => c.unwrap (c.wrap x))))) := by
  simp [lRemoveAll, lKeepAll, hl, keep_all_is_filter]

/-- every operation works in place on the document's own list object: it is the only object
written, nothing is allocated -/
theorem in_place (c : Conv) (h h' : Heap) (id : Nat) (i : Int) (v : Val) (keep : Val → Bool)
    (hop : lSet c h id i v = some h' ∨ lDel h id i = some h' ∨ lAppend c h id v = some h' ∨
           (∃ r, lPop c h id i = some (h', r)) ∨ lKeepAll c keep h id = some h') :
    h'.size = h.size ∧ ∀ j : Nat, j ≠ id → h'[j]? = h[j]? := by
  have key : ∀ o, h' = hput h id o → h'.size = h.size ∧ ∀ j : Nat, j ≠ id → h'[j]? = h[j]? := by
    intro o ho; subst ho; exact ⟨hput_size .., fun j hj => hput_other hj⟩
  rcases hop with hop | hop | hop | ⟨r, hop⟩ | hop
  · obtain ⟨_, _, _, _, ho⟩ := lSet_ok hop; exact key _ ho
  · obtain ⟨_, _, _, _, _, _, ho⟩ := lDel_ok hop; exact key _ ho
  · obtain ⟨_, _, ho⟩ := lAppend_ok hop; exact key _ ho
  · obtain ⟨_, _, _, _, _, _, _, hd⟩ := lPop_ok hop
    obtain ⟨_, _, _, _, _, _, ho⟩ := lDel_ok hd; exact key _ ho
  · obtain ⟨_, _, ho⟩ := lKeepAll_ok hop; exact key _ ho

/-- reads are the plain-list reads with `to_wrapped_value` at the boundary -/
theorem get_is_list_get (c : Conv) (h : Heap) (id : Nat) (xs : List Val) (i : Int) (hl : listOf h id = some xs) :
    lGet c h id i = ((normIndex xs.length i).bind (xs[·]?)).map c.wrap := by
  simp [lGet, hl]

theorem len_is_list_len (h : Heap) (id : Nat) (xs : List Val) (hl : listOf h id = some xs) :
    lLen h id = some xs.length := by simp [lLen, hl]

theorem iter_is_list_iter (c : Conv) (h : Heap) (id : Nat) (xs : List Val) (hl : listOf h id = some xs) :
    lIter c h id = some (xs.map c.wrap) := by simp [lIter, hl]

/-- writes are the plain-list writes with `to_json_value` at the boundary -/
theorem set_is_list_set (c : Conv) (h : Heap) (id : Nat) (xs : List Val) (i : Int) (v : Val) (hl : listOf h id = some xs) :
    lSet c h id i v = (listSet xs i (c.unwrap v)).map fun xs' => hput h id (.list xs') := by
  simp [lSet, hl]

theorem append_is_list_append (c : Conv) (h : Heap) (id : Nat) (xs : List Val) (v : Val) (hl : listOf h id = some xs) :
    lAppend c h id v = some (hput h id (.list (xs ++ [c.unwrap v]))) := by
  simp [lAppend, hl]

theorem pop_is_list_pop (c : Conv) (h : Heap) (id : Nat) (xs : List Val) (i : Int) (hl : listOf h id = some xs) :
    lPop c h id i = (listDel xs i).map fun r => (hput h id (.list r.2), c.wrap r.1) := by
  simp [lPop, hl]

example : (keepAllList (keepFn { w := id, u := id } (fun v => match v with | .atom (.int i) => i > 1 | _ => false))
    [.atom (.int 3), .atom (.int 1), .atom (.int 2), .atom (.int 0), .atom (.int 5)]).map
      (fun v => match v with | .atom (.int i) => i | _ => -1) = [3, 2, 5] := by decide

/-- **"the resulting JSON list equals that of the same operation on a plain list of the JSON
values"**, for `append`: on a document that is a tree, with the view's list sitting at `loc`,
`view.append(v)` makes the document unfold to the old tree with `to_json_value(v)` appended to
the JSON list at `loc` — everything else unchanged, the document still such a tree -/
theorem append_on_the_tree (c : Conv) (h h' : Heap) (id : Nat) (v : Val) (root : Val) (j jv : J) (loc : List Name)
    (hi : DocInv h root j) (hw : walk (hview h) root loc = some (.ref id))
    (hv : UnfJ h jv (c.unwrap v)) (hvn : (fpJ h jv (c.unwrap v)).Nodup)
    (hfresh : ∀ x ∈ fpJ h jv (c.unwrap v), x ∉ fpJ h j root)
    (hop : lAppend c h id v = some h') :
    ∃ j', J.updateAt (jAppend jv) j loc = some j' ∧ DocInv h' root j' :=
  lAppend_refines c h h' id v root j jv loc hi hw hv hvn hfresh hop

/-- `del view[i]` (and the list side of `view.pop(i)`) -/
theorem delete_on_the_tree (h h' : Heap) (id : Nat) (i : Int) (root : Val) (j : J) (loc : List Name)
    (hi : DocInv h root j) (hw : walk (hview h) root loc = some (.ref id)) (hop : lDel h id i = some h') :
    ∃ j', J.updateAt (jDelIdx i) j loc = some j' ∧ DocInv h' root j' :=
  lDel_refines h h' id i root j loc hi hw hop

/-- **`keep_all` / `remove_all` on the tree**: the JSON list at the view's location keeps exactly
the items at the positions where the predicate said "keep", in their original order (converters
that hand the JSON value back unchanged) -/
theorem keep_all_on_the_tree (c : Conv) (hc : ∀ x, c.unwrap (c.wrap x) = x) (keep : Val → Bool) (h h' : Heap) (id : Nat)
    (xs : List Val) (root : Val) (j : J) (loc : List Name)
    (hi : DocInv h root j) (hw : walk (hview h) root loc = some (.ref id)) (ho : h[id]? = some (.list xs))
    (hop : lKeepAll c keep h id = some h') :
    ∃ j', J.updateAt (jKeep (xs.map fun x => keep (c.wrap x))) j loc = some j' ∧ DocInv h' root j' :=
  lKeepAll_refines c hc keep h h' id xs root j loc hi hw ho hop

/-- `view[i] = v` on the tree (index in range, fresh value) -/
theorem assign_item_on_the_tree (c : Conv) (h h' : Heap) (id : Nat) (i : Int) (v : Val) (root : Val) (j jv : J)
    (loc : List Name) (hi : DocInv h root j) (hw : walk (hview h) root loc = some (.ref id))
    (hv : UnfJ h jv (c.unwrap v)) (hvn : (fpJ h jv (c.unwrap v)).Nodup)
    (hfresh : ∀ x ∈ fpJ h jv (c.unwrap v), x ∉ fpJ h j root)
    (hop : lSet c h id i v = some h') :
    ∃ j', J.updateAt (jSetIdx i jv) j loc = some j' ∧ DocInv h' root j' :=
  lSet_refines c h h' id i v root j jv loc hi hw hv hvn hfresh hop

/-- `view.pop(i)` on the tree: what `del view[i]` does to the document, handing back what
`view[i]` read -/
theorem pop_item_on_the_tree (c : Conv) (h h' : Heap) (id : Nat) (i : Int) (r : Val) (root : Val) (j : J)
    (loc : List Name) (hi : DocInv h root j) (hw : walk (hview h) root loc = some (.ref id))
    (hop : lPop c h id i = some (h', r)) :
    lDel h id i = some h' ∧ lGet c h id i = some r ∧
      ∃ j', J.updateAt (jDelIdx i) j loc = some j' ∧ DocInv h' root j' :=
  lPop_refines c h h' id i r root j loc hi hw hop

/-- `remove_all(is_remove)` on the tree: the JSON list at the view's location keeps exactly the
items at the positions where the predicate said "do not remove" -/
theorem remove_all_on_the_tree (c : Conv) (hc : ∀ x, c.unwrap (c.wrap x) = x) (rm : Val → Bool) (h h' : Heap) (id : Nat)
    (xs : List Val) (root : Val) (j : J) (loc : List Name)
    (hi : DocInv h root j) (hw : walk (hview h) root loc = some (.ref id)) (ho : h[id]? = some (.list xs))
    (hop : lRemoveAll c rm h id = some h') :
    ∃ j', J.updateAt (jKeep (xs.map fun x => !rm (c.wrap x))) j loc = some j' ∧ DocInv h' root j' :=
  lRemoveAll_refines c hc rm h h' id xs root j loc hi hw ho hop

/-- with a predicate that remembers what it has been asked: still one question per element,
front to back (the in-place loop = the plain-list comprehension, state included) -/
theorem keep_all_with_memory {σ : Type} (f : σ → Val → σ × Option Val) (s : σ) (xs : List Val) :
    keepAllListS f s xs = (filterMapS f s xs).1 :=
  keepAllListS_eq f s xs

end Treepath.C19
