import Treepath.Proofs.Descends
import Treepath.Proofs.HeapSearch
import Treepath.Proofs.RefoldHandles
/- C14 — Match.data assignment, del and pop write through to the document -/
namespace Treepath.C14

/-- `m.data = v`: the parent container holds `v` itself at the match's name afterwards, only
that object is written, and `m.data` reflects it -/
theorem assign_frame (h h' : Heap) (hd hd' : Handle) (v : Val) (ha : hd.assign h v = .ok (h', hd')) :
    hd'.cache = v ∧ hd'.slot h' = some v ∧ h'.size = h.size ∧
    ∃ id : Nat, hd.parent = .ref id ∧ ∀ j : Nat, j ≠ id → h'[j]? = h[j]? := by
  obtain ⟨id, o, hp, hw, rfl, rfl⟩ := Handle.assign_ok ha
  exact ⟨rfl, (Handle.slot_eq (hd := { hd with cache := v }) hp (hput_self hw.lt)).trans hw.get,
    hput_size .., id, hp, fun j hj => hput_other hj⟩

/-- a successful `del m.data` found the entry in its slot, writes only the parent container and
allocates nothing (what it leaves there: `del_is_one_tree_update`) -/
theorem del_frame (h h' : Heap) (hd hd' : Handle) (hdel : hd.del h = .ok (h', hd')) :
    h'.size = h.size ∧ (hd.slot h).isSome ∧ ∃ id : Nat, hd.parent = .ref id ∧ ∀ j : Nat, j ≠ id → h'[j]? = h[j]? := by
  obtain ⟨id, o, hp, hw, rfl, _⟩ := Handle.del_ok hdel
  obtain ⟨o0, c, ho, hc⟩ := hw.had
  exact ⟨hput_size .., by rw [Handle.slot_eq hp ho, hc]; rfl, id, hp, fun j hj => hput_other hj⟩

/-- `del` of an entry that no longer exists: PopError, with the store unchanged (the function
returns no new store in that case) -/
theorem del_missing (h : Heap) (hd : Handle) (id : Nat) (hp : hd.parent = .ref id)
    (hkind : (∃ es k, h[id]? = some (.dict es) ∧ hd.name = .key k) ∨ (∃ xs i, h[id]? = some (.list xs) ∧ hd.name = .idx i))
    (hs : hd.slot h = none) : hd.del h = .error .popError := by
  cases hr : hd.del h with
  | ok r =>
    obtain ⟨id', o, hp', hw, _⟩ := Handle.del_ok hr
    obtain ⟨o0, c, ho, hc⟩ := hw.had
    rw [Handle.slot_eq hp' ho, hc] at hs
    cases hs
  | error e => rw [Handle.del_error hr hp hkind]

/-- `m.pop()` returns **the value it removes** (read from the slot, not the value cached
when the match was created — fix F4), and removes it as `del` does -/
theorem pop_returns_removed (h h' : Heap) (hd hd' : Handle) (d : Option Val) (v : Val)
    (hp : hd.pop h d = .ok (h', hd', v)) :
    (hd.slot h = some v ∧ hd.del h = .ok (h', hd')) ∨ (hd.del h = .error .popError ∧ d = some v ∧ h' = h) := by
  unfold Handle.pop at hp
  rcases hdel : hd.del h with e | ⟨h1, hd1⟩ <;> rw [hdel] at hp
  · rcases e with _ | c
    · rcases d with _ | dv <;> cases hp
      exact .inr ⟨rfl, rfl, rfl⟩
    · cases hp
  · cases hp
    obtain ⟨_, hsome, _⟩ := del_frame _ _ _ _ hdel
    obtain ⟨w, hw⟩ := Option.isSome_iff_exists.mp hsome
    exact .inl ⟨by rw [hw]; rfl, rfl⟩

/-- removing an entry that no longer exists raises PopError unless a default is given -/
theorem pop_missing_no_default (h : Heap) (hd : Handle) (hdel : hd.del h = .error .popError) :
    hd.pop h none = .error .popError := by
  simp [Handle.pop, hdel]

/-- witness of the defect repaired by F4: with the value cached at creation, a second handle
of a slot rewritten through the first would report the stale value -/
example : let h : Heap := #[.list [.atom (.int 1), .atom (.int 2), .atom (.int 3)]]
    let m1 : Handle := { parent := .ref 0, name := .idx 1, cache := .atom (.int 2), pathStr := "$[1]" }
    (match m1.assign h (.atom (.int 5)) with
     | .ok (h1, _) => (match m1.pop h1 none with | .ok (_, _, .atom (.int 5)) => true | _ => false)
     | _ => false) = true := by decide

/-- **"every match obtainable by any parent-free path"**, against the definition: the
matches of a search over the object store — from which the handles of this property are
taken — are, one for one and in order, at the locations of the matches of the same search
over the JSON tree the document unfolds to, holding values that unfold to theirs -/
theorem handles_are_the_definitions_matches (h : Heap) (v : Val) (j : J) (hu : Unf h v j)
    (sa : Array (Step Val)) (sb : Array (Step J)) (hsteps : LRel (StepRel (Unf h)) sa.toList sb.toList) (fuel : Nat) :
    LRel (NodeRel (Unf h)) (drain (wcx h) sa (.doc v) fuel freshIter).1
      (drain ({ view := J.view, toJ := id } : Ctx J) sb (.doc j) fuel freshIter).1 ∧
    (drain (wcx h) sa (.doc v) fuel freshIter).2 =
      (drain ({ view := J.view, toJ := id } : Ctx J) sb (.doc j) fuel freshIter).2 :=
  heap_drain_is_tree_drain hu sa sb hsteps fuel

/-- the chain of cells is the match followed by the chain of its `.parent` (an imaginary
match forwards `.parent` to the match it shadows) -/
theorem cells_unfold (n : MNode Val) :
    n.cells = cellOf n :: (match n.parent with | none => [] | some p => p.cells) := by
  induction n with
  | root d => rfl
  | child p nm d _ => rfl
  | imag p ih => simp [MNode.cells, MNode.parent, ih]
  | par r f _ _ => rfl

/-- the handle at depth 0 of a result's group is the `Match` of that result -/
theorem group_depth_zero (n : MNode Val) : groupHandle n.cells 0 = Handle.ofNode n := by
  rw [cells_unfold n, Handle.ofNode]
  cases n.parent with
  | none => rfl
  | some p => simp only []; rw [cells_unfold p]; rfl

/-- one step along `.parent` in a group is the `Match` of the parent -/
theorem group_parent (n p : MNode Val) (hp : n.parent = some p) (d : Nat) :
    groupHandle n.cells (d+1) = groupHandle p.cells d := by
  rw [cells_unfold n, hp]
  rfl

/-- **replacing a container through `m.parent` redirects the writes through `m`**: after an
operation through the handle at depth `d+1` that leaves it caching `c`, the handle at depth
`d` writes into `c` (its name and its own cache are untouched) -/
theorem write_through_parent_redirects (cs : List HCell) (d : Nat) (hd hp hp' : Handle)
    (h0 : groupHandle cs d = some hd) (_h1 : groupHandle cs (d+1) = some hp) :
    ∃ hd', groupHandle (groupStore cs (d+1) hp') d = some hd' ∧
      hd'.parent = hp'.cache ∧ hd'.name = hd.name ∧ hd'.cache = hd.cache := by
  simp only [groupHandle] at h0
  split at h0
  · rename_i c p hc hpc
    simp only [Option.some.injEq] at h0
    subst h0
    have hlt : d + 1 < cs.length := (List.getElem?_eq_some_iff.mp hpc).1
    refine ⟨{ parent := hp'.cache, name := c.name, cache := c.data, pathStr := c.pathStr }, ?_, rfl, rfl, rfl⟩
    simp only [groupStore, hpc, groupHandle]
    rw [List.getElem?_set_ne (by omega), hc, List.getElem?_set_self hlt]
  · simp at h0

/-- an operation through a handle leaves the other cells of its group alone -/
theorem group_store_frame (cs : List HCell) (d k : Nat) (hd : Handle) (hk : k ≠ d) :
    (groupStore cs d hd)[k]? = cs[k]? := by
  simp only [groupStore]
  split
  · exact List.getElem?_set_ne (by omega)
  · rfl

/-- non-vacuity: `$.a[f].b` — the chain is `b`, the filter's bookkeeping match (named `a`,
a cell of its own), the root; the plain match `$.a` is not on it -/
example : ((MNode.child (.imag (.child (.root (.ref 0)) (.key "a") (.ref 1))) (.key "b") (.atom (.int 1))).cells.map (·.pathStr))
    = ["$.a.b", "$.a", "$"] := by decide

/-- every match of every iteration over a document with unique dict keys is *genuine*: walking
its `data_name`s from the root by Python's own lookups reaches the value it holds — the
premise under which a handle's write is a write "at that location" -/
theorem matches_are_genuine (h : Heap) (hw : HeapWF h) (root : Val) (steps : Array (Step Val)) (fuel : Nat) :
    ∀ n ∈ (drain (wcx h) steps (.doc root) fuel freshIter).1,
      Gen (hview h) root n ∧ walk (hview h) root n.loc = some n.data := fun n hn =>
  have hg := drain_fresh_gen (wcx h) root steps (.doc root) (heapwf_keysUniq hw) rfl fuel n hn
  ⟨hg, gen_walk (hview h) root n hg⟩

/-- **`m.data = v` makes the document hold `v` at that location and changes nothing else**, on
the tree: the document (a tree: `DocInv`) unfolds afterwards to `j` with `jv` at the name
`m.data_name` inside the node at the location of `m.parent`, and is again a tree -/
theorem assign_is_one_tree_update (h h' : Heap) (root : Val) (j jv : J) (m p : MNode Val) (hd hd' : Handle) (v : Val)
    (hi : DocInv h root j) (hgen : Gen (hview h) root m) (hm : m.parent = some p)
    (hh : Handle.ofNode m = some hd)
    (hv : UnfJ h jv v) (hvn : (fpJ h jv v).Nodup) (hfresh : ∀ x ∈ fpJ h jv v, x ∉ fpJ h j root)
    (ha : hd.assign h v = .ok (h', hd')) :
    ∃ j', J.setAt j p.loc m.dataName jv = some j' ∧ DocInv h' root j' :=
  assign_refines h h' root j jv m p hd hd' v hi hgen hm hh hv hvn hfresh ha

/-- **`del m.data` removes that entry exactly as dict / list deletion does**, on the tree -/
theorem del_is_one_tree_update (h h' : Heap) (root : Val) (j : J) (m p : MNode Val) (hd hd' : Handle)
    (hi : DocInv h root j) (hgen : Gen (hview h) root m) (hm : m.parent = some p)
    (hh : Handle.ofNode m = some hd) (ha : hd.del h = .ok (h', hd')) :
    ∃ j', J.popAt j p.loc m.dataName = some j' ∧ DocInv h' root j' :=
  del_refines h h' root j m p hd hd' hi hgen hm hh ha

/-- **results of `find_matches(q, match)` share the start match's ancestors**: for every result
`m` of a search started from the Match `sm`, the chain `m, m.parent, …` consists of objects of
its own followed by exactly the chain `sm.parent, sm.parent.parent, …` of the start match —
the same `TraverserMatch` objects (this is what the cell heap of the handle histories
implements: the shared tail is not copied).  Replacing a container through `sm.parent`
therefore also redirects the writes of matches found from `sm`. -/
theorem nested_results_share_the_start_chain (h : Heap) (steps : Array (Step Val)) (sm : MNode Val) (fuel : Nat) :
    ∀ m ∈ (drain (wcx h) steps (.nested sm) fuel freshIter).1,
      ∃ own, own ≠ [] ∧ m.cells = own ++ sm.cells.tail ∧ own.length = m.cells.length - sm.cells.tail.length := by
  intro m hm
  obtain ⟨own, hne, he⟩ := cells_below_nested_root sm m (drain_fresh_desc (wcx h) steps (.nested sm) fuel m hm)
  exact ⟨own, hne, he, by rw [he]; simp⟩

end Treepath.C14
