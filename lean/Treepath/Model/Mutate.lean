import Treepath.Model.Heap
import Treepath.Model.Api
/-
The writers: `set_` / `set_match` (+cascade), `pop` / `pop_match`, `get(..., store_default)`,
and `Match.data` assignment / `del` / `Match.pop`, transcribed from
`traverser_functions.py`, the vertices' `set` / `pop` methods and `match.py`, on the object
store of `Heap.lean`.
-/
namespace Treepath

/-- the traverser context over a heap -/
def wcx (h : Heap) : Ctx Val := { view := hview h, toJ := unfoldVal h 64 }

/-- write object `id` -/
def hput (h : Heap) (id : Nat) (o : Obj) : Heap := h.setIfInBounds id o

/-- `vertex.set(parent_match, value)`: only key and index vertices support it -/
def vertexSet (h : Heap) (s : Step Val) (pm : MNode Val) (v : Val) : Except ApiErr (Heap × MNode Val) :=
  match s, pm.data with
  | .key k, .ref id =>
    match h[id]? with
    | some (.dict es) => .ok (hput h id (.dict (dictSet es k v)), .child pm (.key k) v)
    | _ => .error .setError                         -- raise_invalid_set: data is not a dict
  | .idx i, .ref id =>
    match h[id]? with
    | some (.list xs) =>
      match listSet xs i v with
      | some xs' => .ok (hput h id (.list xs'), .child pm (.idx i) v)
      | none =>                                      -- IndexError: append iff index == len
        if i = xs.length then .ok (hput h id (.list (xs ++ [v])), .child pm (.idx i) v)
        else .error .setError
    | _ => .error .setError
  | _, _ => .error .setError                         -- any other vertex / scalar parent

/-- `vertex.default_value_for_set`: a fresh `dict()` / `list()`, `None` for other vertices -/
def defaultValueFor (h : Heap) (s : Step Val) : Heap × Val :=
  match s with
  | .key _ => (h.push (.dict []), .ref h.size)
  | .idx _ => (h.push (.list []), .ref h.size)
  | _ => (h, .atom .null)

def isNotFound : ApiErr → Bool
  | .matchNotFound | .nestedMatchNotFound => true
  | _ => false

/-- `set_match(expression, value, data, cascade)` for the first `n` steps of the path.
`stepsOf` rebuilds the path's steps over the current heap (predicates read the heap).
On failure the heap reached so far is returned as well (containers created by a cascade
before a late failure stay behind). -/
def setMatchN (stepsOf : Heap → List (Step Val)) (src : Src Val) (cascade : Bool) :
    Nat → Heap → Val → (Heap × Except ApiErr (MNode Val))
  | 0, h, _ => (h, .error .setError)                 -- the root cannot be assigned (fix F3)
  | n+1, h, v =>
    match (stepsOf h)[n]? with
    | none => (h, .error (.bug "path shorter than expected"))
    | some last =>
      match getMatch (wcx h) ((stepsOf h).take n).toArray src true with
      | .ok (some pm) =>
        match vertexSet h last pm v with
        | .ok (h', m) => (h', .ok m)
        | .error e => (h, .error e)
      | .ok none => (h, .error (.bug "must_match"))
      | .error e =>
        if isNotFound e then
          if cascade then
            let (h1, dv) := defaultValueFor h last
            match setMatchN stepsOf src true n h1 dv with
            | (h2, .ok pm) =>
              match vertexSet h2 last pm v with
              | .ok (h', m) => (h', .ok m)
              | .error e => (h2, .error e)
            | (h2, .error e) => (h2, .error e)
          else (h, .error .setError)
        else (h, .error e)

def setMatch (stepsOf : Heap → List (Step Val)) (src : Src Val) (cascade : Bool) (h : Heap) (v : Val) :
    Heap × Except ApiErr (MNode Val) :=
  setMatchN stepsOf src cascade (stepsOf h).length h v

/-- `vertex.pop(match)` -/
def vertexPop (h : Heap) (last : Option (Step Val)) (m : MNode Val) : Except ApiErr Heap :=
  match last, m.parent.map MNode.data with
  | some (.key k), some (.ref id) =>
    match h[id]? with
    | some (.dict es) =>
      match dictDel es k with
      | some (_, es') => .ok (hput h id (.dict es'))
      | none => .error (.exc (.user "KeyError"))
    | _ => .error .popError
  | some (.idx i), some (.ref id) =>
    match h[id]? with
    | some (.list xs) =>
      match listDel xs i with
      | some (_, xs') => .ok (hput h id (.list xs'))
      | none => .error (.exc (.user "IndexError"))
    | _ => .error .popError
  | _, _ => .error .popError

/-- `pop_match(expression, data, must_match)` -/
def popMatch (stepsOf : Heap → List (Step Val)) (src : Src Val) (mustMatch : Bool) (h : Heap) :
    Heap × Except ApiErr (Option (MNode Val)) :=
  match getMatch (wcx h) (stepsOf h).toArray src mustMatch with
  | .ok none => (h, .ok none)
  | .ok (some m) =>
    match vertexPop h (stepsOf h).getLast? m with
    | .ok h' => (h', .ok (some m))
    | .error e => (h, .error e)
  | .error e => (h, .error e)

/-- `pop(expression, data, default)`: the popped value, or the default -/
def pop (stepsOf : Heap → List (Step Val)) (src : Src Val) (dflt : Option Val) (h : Heap) :
    Heap × Except ApiErr Val :=
  match popMatch stepsOf src dflt.isNone h with
  | (h', .ok (some m)) => (h', .ok m.data)
  | (h', .ok none) => (h', .ok (dflt.getD (.atom .null)))
  | (h', .error e) => (h', .error e)

/-- `get(expression, data, default=v, store_default=True)` -/
def getStoreDefault (stepsOf : Heap → List (Step Val)) (src : Src Val) (dflt : Val) (h : Heap) :
    Heap × Except ApiErr Val :=
  match getMatch (wcx h) (stepsOf h).toArray src false with
  | .ok (some m) => (h, .ok m.data)
  | .ok none =>
    match setMatch stepsOf src true h dflt with
    | (h', .ok _) => (h', .ok dflt)
    | (h', .error e) => (h', .error e)
  | .error e => (h, .error e)

/-! ### Match handles (`Match.data = v`, `del m.data`, `m.pop()`) -/

/-- what a `Match` of a key / index location holds on to: the parent *object*, the name,
and the value cached when the match was created -/
structure Handle where
  parent : Val
  name : Name
  cache : Val
  pathStr : String
  deriving Inhabited

def Handle.ofNode (m : MNode Val) : Option Handle :=
  m.parent.map fun p => { parent := p.data, name := m.dataName, cache := m.data, pathStr := m.pathStr }

inductive HErr where
  | popError
  | py (cls : String)
  deriving Repr, DecidableEq

/-- read the slot `parent.data[data_name]`; `none` = `LookupError` (or a kind mismatch) -/
def Handle.slot (h : Heap) (hd : Handle) : Option Val :=
  match hd.parent, hd.name with
  | .ref id, .key k => match h[id]? with
    | some (.dict es) => es.lookup k
    | _ => none
  | .ref id, .idx i => match h[id]? with
    | some (.list xs) => (normIndex xs.length i).bind (xs[·]?)
    | _ => none
  | _, _ => none

/-- `m.data = v` -/
def Handle.assign (h : Heap) (hd : Handle) (v : Val) : Except HErr (Heap × Handle) :=
  match hd.parent, hd.name with
  | .ref id, .key k => match h[id]? with
    | some (.dict es) => .ok (hput h id (.dict (dictSet es k v)), { hd with cache := v })
    | _ => .error (.py "TypeError")
  | .ref id, .idx i => match h[id]? with
    | some (.list xs) =>
      match listSet xs i v with
      | some xs' => .ok (hput h id (.list xs'), { hd with cache := v })
      | none => .error (.py "IndexError")
    | _ => .error (.py "TypeError")
  | _, _ => .error (.py "TypeError")

/-- `del m.data` -/
def Handle.del (h : Heap) (hd : Handle) : Except HErr (Heap × Handle) :=
  match hd.parent, hd.name with
  | .ref id, .key k => match h[id]? with
    | some (.dict es) =>
      match dictDel es k with
      | some (_, es') => .ok (hput h id (.dict es'), { hd with cache := .atom .null })
      | none => .error .popError
    | _ => .error (.py "TypeError")
  | .ref id, .idx i => match h[id]? with
    | some (.list xs) =>
      match listDel xs i with
      | some (_, xs') => .ok (hput h id (.list xs'), { hd with cache := .atom .null })
      | none => .error .popError
    | _ => .error (.py "TypeError")
  | _, _ => .error (.py "TypeError")

/-- `m.pop(default)` (after fix F4: the value removed is read from the slot) -/
def Handle.pop (h : Heap) (hd : Handle) (dflt : Option Val) : Except HErr (Heap × Handle × Val) :=
  let old := (hd.slot h).getD (.atom .null)
  match hd.del h with
  | .ok (h', hd') => .ok (h', hd', old)
  | .error .popError =>
    match dflt with
    | some d => .ok (h, hd, d)
    | none => .error .popError
  | .error e => .error e

/-! ### `Match.parent`: the `TraverserMatch` objects behind a `Match` and its ancestors

`Match(m).parent` wraps the *same* `TraverserMatch` object `m.parent` every time, and every
`TraverserMatch` caches its `data` in an attribute the setter / deleter overwrite.  The
container a write goes to is read from the parent object's cache *at the time of the write*:
after `m.parent.data = c` later writes through `m` land in `c`.  A group holds the cells of
one result and of the matches reachable from it through `.parent`, nearest first. -/

structure HCell where
  name : Name
  data : Val
  pathStr : String
  deriving Inhabited

def cellOf (n : MNode Val) : HCell := { name := n.dataName, data := n.data, pathStr := n.pathStr }

/-- `m, m.parent, m.parent.parent, …` (an imaginary match is an object of its own whose
`.parent` is the parent of the match it shadows) -/
def MNode.cells : MNode Val → List HCell
  | .root d => [cellOf (.root d)]
  | .child p nm d => cellOf (.child p nm d) :: p.cells
  | .imag p => cellOf (.imag p) :: p.cells.tail
  | .par r f => cellOf (.par r f) :: f.cells

/-- the `Match` at depth `d` of a group, as the write operations see it now -/
def groupHandle (cs : List HCell) (d : Nat) : Option Handle :=
  match cs[d]?, cs[d+1]? with
  | some c, some p => some { parent := p.data, name := c.name, cache := c.data, pathStr := c.pathStr }
  | _, _ => none

/-- after an operation: the cache of the cell at depth `d` is what the handle now caches -/
def groupStore (cs : List HCell) (d : Nat) (hd : Handle) : List HCell :=
  match cs[d]? with
  | some c => cs.set d { c with data := hd.cache }
  | none => cs

/-- the match as its `TraverserMatch` objects cache it *now*: the data of the match and of its
`.parent` chain taken from the cells (an imaginary match keeps its own cache; the match it
shadows is given the same data — only its ancestors are reachable from here) -/
def MNode.withCells : MNode Val → List HCell → MNode Val
  | .root _, c :: _ => .root c.data
  | .child p nm _, c :: cs => .child (p.withCells cs) nm c.data
  | .imag p, c :: cs => .imag (p.withCells ({ c with name := p.dataName } :: cs))
  | .par r f, c :: cs => .par (r.withCells [c]) (f.withCells cs)
  | n, [] => n

/-- `m.parent`, `d` times -/
def MNode.ancestor : MNode Val → Nat → Option (MNode Val)
  | n, 0 => some n
  | n, d+1 => n.parent.bind (·.ancestor d)

/-! ### cells shared between matches

The result of a search started from a `Match` hangs below that Match's own `TraverserMatch`
objects: from the nested root upward the two chains are the *same* objects.  Cells therefore
live in one array, and a `Match` is the list of the cell numbers along its `.parent` chain. -/

def chainCells (cells : Array HCell) (ids : List Nat) : List HCell := ids.filterMap (cells[·]?)

def groupHandleH (cells : Array HCell) (ids : List Nat) (d : Nat) : Option Handle :=
  groupHandle (chainCells cells ids) d

def groupStoreH (cells : Array HCell) (ids : List Nat) (d : Nat) (hd : Handle) : Array HCell :=
  match ids[d]? with
  | some i => cells.modify i fun c => { c with data := hd.cache }
  | none => cells

/-- allocate the cells of a fresh result -/
def allocCells (cells : Array HCell) (cs : List HCell) : Array HCell × List Nat :=
  (cells ++ cs.toArray, (List.range cs.length).map (· + cells.size))

end Treepath
