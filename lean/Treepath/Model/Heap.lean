import Treepath.Model.Path
/-
A Python-like object store for the writers: dicts and lists are objects with identity,
values are scalars or references.  `hview` makes the heap an instance of the generic
traverser, so `set_` / `pop` literally run the modelled `get_match`.
-/
namespace Treepath

inductive Val where
  | atom (j : J)        -- a scalar (null, bool, int, float, str)
  | ref (id : Nat)      -- a dict or list object
  deriving Repr, Inhabited

inductive Obj where
  | dict (es : List (String × Val))
  | list (xs : List Val)
  deriving Repr, Inhabited

abbrev Heap := Array Obj

def hview (h : Heap) : Val → View Val
  | .atom _ => .scalar
  | .ref id =>
    match h[id]? with
    | some (.dict es) => .dict es
    | some (.list xs) => .list xs
    | none => .scalar

/-- the JSON value a heap value unfolds to (fuel bounds the depth: cyclic heaps are cut) -/
def unfoldVal (h : Heap) : Nat → Val → J
  | _, .atom j => j
  | 0, .ref _ => .null
  | fuel+1, .ref id =>
    match h[id]? with
    | some (.dict es) => .obj (es.map fun (k, v) => (k, unfoldVal h fuel v))
    | some (.list xs) => .arr (xs.map (unfoldVal h fuel))
    | none => .null

/-- load a JSON tree into the heap: every container becomes a fresh object -/
def allocJ : Heap → J → Heap × Val
  | h, .arr xs =>
    let r := allocList h xs
    (r.1.push (.list r.2), .ref r.1.size)
  | h, .obj kvs =>
    let r := allocKvs h kvs
    (r.1.push (.dict r.2), .ref r.1.size)
  | h, j => (h, .atom j)
where
  allocList : Heap → List J → Heap × List Val
    | h, [] => (h, [])
    | h, x :: xs =>
      let r := allocJ h x
      let r' := allocList r.1 xs
      (r'.1, r.2 :: r'.2)
  allocKvs : Heap → List (String × J) → Heap × List (String × Val)
    | h, [] => (h, [])
    | h, (k, x) :: xs =>
      let r := allocJ h x
      let r' := allocKvs r.1 xs
      (r'.1, (k, r.2) :: r'.2)

/-! ### the container primitives (CPython semantics) -/

/-- `d[k] = v` on a dict: replace in place (position kept) or add at the end -/
def dictSet : List (String × Val) → String → Val → List (String × Val)
  | [], k, v => [(k, v)]
  | (k', v') :: es, k, v => if k' = k then (k, v) :: es else (k', v') :: dictSet es k v

/-- the dict without key `k` (order of the rest kept) -/
def dictErase : List (String × Val) → String → List (String × Val)
  | [], _ => []
  | (k', v') :: es, k => if k' = k then es else (k', v') :: dictErase es k

/-- `del d[k]` / `d.pop(k)`: `none` = `KeyError` -/
def dictDel (es : List (String × Val)) (k : String) : Option (Val × List (String × Val)) :=
  match es.lookup k with
  | some v => some (v, dictErase es k)
  | none => none

/-- normalise a Python index against a length; `none` = `IndexError` -/
def normIndex (len : Nat) (i : Int) : Option Nat :=
  if 0 ≤ i then (if i.toNat < len then some i.toNat else none)
  else if (-i).toNat ≤ len then some (len - (-i).toNat) else none

/-- `l[i] = v`: `none` = `IndexError` -/
def listSet (xs : List Val) (i : Int) (v : Val) : Option (List Val) :=
  (normIndex xs.length i).map fun k => xs.set k v

/-- `del l[i]` / `l.pop(i)`: `none` = `IndexError` -/
def listDel (xs : List Val) (i : Int) : Option (Val × List Val) :=
  match normIndex xs.length i with
  | some k => (xs[k]?).map fun v => (v, xs.eraseIdx k)
  | none => none

end Treepath
