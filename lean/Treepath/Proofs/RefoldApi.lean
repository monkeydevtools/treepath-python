import Treepath.Proofs.RefoldOps
import Treepath.Proofs.RefoldInv
/-
`set_` / `set_match` (without cascade) and `pop` / `pop_match` as updates of the JSON tree the
document unfolds to — the refinement of the object-store model to the tree specification of
`Spec/TreeWrite.lean`, for documents that satisfy `DocInv` (loaded JSON, written with fresh
values).
-/
namespace Treepath

/-- the non-cascading `set_match` on the tree, whatever the data source: all that is needed of
the parent match `pm` is a location `locOf pm` of the document at which its value sits -/
theorem setMatchN_refines_at (stepsOf : Heap → List (Step Val)) (src : Src Val) {root : Val}
    (locOf : MNode Val → List Name) {j jv : J} {n : Nat} {h h' : Heap} {v : Val} {m : MNode Val} (hi : DocInv h root j)
    (hloc : ∀ pm, getMatch (wcx h) ((stepsOf h).take n).toArray src true = .ok (some pm) →
      walk (hview h) root (locOf pm) = some pm.data)
    (hv : UnfJ h jv v) (hvn : (fpJ h jv v).Nodup) (hfresh : ∀ x ∈ fpJ h jv v, x ∉ fpJ h j root)
    (hset : setMatchN stepsOf src false (n+1) h v = (h', .ok m)) :
    ∃ pm nm j', m = .child pm nm v ∧ getMatch (wcx h) ((stepsOf h).take n).toArray src true = .ok (some pm) ∧
      J.setAt j (locOf pm) nm jv = some j' ∧ DocInv h' root j' ∧
      ∀ x ∈ fpJ h' j' root, x ∈ fpJ h j root ∨ x ∈ fpJ h jv v := by
  obtain ⟨last, pm, _, hg, hvs⟩ := setMatchN_ok hset
  obtain ⟨nm, j', _, e1, e2, e3, e4, e5⟩ :=
    vertexSet_refold_at hvs hi.unf hi.sep hv hvn hfresh (hloc pm hg)
  exact ⟨pm, nm, j', e1, hg, e2, ⟨e3, e4, vertexSet_wf hi.wf hvs⟩, e5⟩

theorem setMatch_refines (stepsOf : Heap → List (Step Val)) (root : Val) (j jv : J) (n : Nat) (h h' : Heap)
    (v : Val) (m : MNode Val) (hi : DocInv h root j)
    (hv : UnfJ h jv v) (hvn : (fpJ h jv v).Nodup) (hfresh : ∀ x ∈ fpJ h jv v, x ∉ fpJ h j root)
    (hset : setMatchN stepsOf (.doc root) false (n+1) h v = (h', .ok m)) :
    ∃ pm nm j', m = .child pm nm v ∧
      getMatch (wcx h) ((stepsOf h).take n).toArray (.doc root) true = .ok (some pm) ∧
      J.setAt j pm.loc nm jv = some j' ∧ DocInv h' root j' ∧
      ∀ x ∈ fpJ h' j' root, x ∈ fpJ h j root ∨ x ∈ fpJ h jv v :=
  setMatchN_refines_at stepsOf (.doc root) MNode.loc hi
    (fun pm hg => gen_walk (hview h) root pm (getMatch_gen (wcx h) (heapwf_keysUniq hi.wf) _ root true pm hg))
    hv hvn hfresh hset

/-- `set_match(expr, v, match)`, the data source a `Match` of the document: the target may lie
below the match or — after parent steps — above it -/
theorem setMatch_from_match_refines (stepsOf : Heap → List (Step Val)) (root : Val) (sm : MNode Val) (j jv : J) (n : Nat)
    (h h' : Heap) (v : Val) (m : MNode Val) (hi : DocInv h root j) (hsm : Gen (hview h) root sm)
    (hv : UnfJ h jv v) (hvn : (fpJ h jv v).Nodup) (hfresh : ∀ x ∈ fpJ h jv v, x ∉ fpJ h j root)
    (hset : setMatchN stepsOf (.nested sm) false (n+1) h v = (h', .ok m)) :
    ∃ pm nm j', m = .child pm nm v ∧ J.setAt j pm.loc nm jv = some j' ∧ DocInv h' root j' := by
  obtain ⟨pm, nm, j', e1, _, e2, e3, _⟩ := setMatchN_refines_at stepsOf (.nested sm) MNode.loc hi
    (fun pm hg => gen_walk (hview h) root pm
      (getMatch_gen_src (wcx h) (heapwf_keysUniq hi.wf) _ root (.nested sm) hsm true pm hg)) hv hvn hfresh hset
  exact ⟨pm, nm, j', e1, e2, e3⟩

/-- the value is loaded into the store just before (what every caller passing a JSON value
does): nothing is assumed about it but unique keys -/
theorem set_fresh_refines (stepsOf : Heap → List (Step Val)) (root : Val) (j jv : J) (n : Nat) (h h' : Heap)
    (m : MNode Val) (hi : DocInv h root j) (hjv : jv.WFK)
    (hset : setMatchN stepsOf (.doc root) false (n+1) (allocJ h jv).1 (allocJ h jv).2 = (h', .ok m)) :
    ∃ pm nm j', m = .child pm nm (allocJ h jv).2 ∧ J.setAt j pm.loc nm jv = some j' ∧ DocInv h' root j' := by
  obtain ⟨i1, u1, n1, f1⟩ := alloc_inv h root j jv hi hjv
  obtain ⟨pm, nm, j', e1, _, e2, e3, _⟩ := setMatch_refines stepsOf root j jv n _ h' _ m i1 u1 n1 f1 hset
  exact ⟨pm, nm, j', e1, e2, e3⟩

/-- `pop_match` on the tree, for any data source: the parent of the match found sits at
`locOf parent` of the document -/
theorem popMatch_refines_at (stepsOf : Heap → List (Step Val)) (src : Src Val) {root : Val}
    (locOf : MNode Val → List Name) {j : J} {h h' : Heap} {mm : Bool} {m : MNode Val} (hi : DocInv h root j)
    (hloc : getMatch (wcx h) (stepsOf h).toArray src mm = .ok (some m) →
      ∀ p, m.parent = some p → walk (hview h) root (locOf p) = some p.data)
    (hpop : popMatch stepsOf src mm h = (h', .ok (some m))) :
    ∃ p nm j', m.parent = some p ∧ (stepsOf h).getLast? = some (nameStepV nm) ∧ J.popAt j (locOf p) nm = some j' ∧
      DocInv h' root j' ∧ ∀ x ∈ fpJ h' j' root, x ∈ fpJ h j root := by
  obtain ⟨hg, hvp⟩ := popMatch_ok hpop
  obtain ⟨p, nm, j', e1, e0, e2, e3, e4, e5⟩ := vertexPop_refold_at locOf hvp hi.unf hi.sep (hloc hg)
  exact ⟨p, nm, j', e1, e0, e2, ⟨e3, e4, vertexPop_wf hi.wf hvp⟩, e5⟩

theorem popMatch_refines (stepsOf : Heap → List (Step Val)) (root : Val) (j : J) (h h' : Heap) (mm : Bool)
    (m : MNode Val) (hi : DocInv h root j)
    (hpop : popMatch stepsOf (.doc root) mm h = (h', .ok (some m))) :
    ∃ p nm j', m.parent = some p ∧ (stepsOf h).getLast? = some (nameStepV nm) ∧ J.popAt j p.loc nm = some j' ∧
      DocInv h' root j' ∧ ∀ x ∈ fpJ h' j' root, x ∈ fpJ h j root :=
  popMatch_refines_at stepsOf (.doc root) MNode.loc hi
    (fun hg p hp => gen_walk (hview h) root p (gen_parent (hview h) root m p
      (getMatch_gen (wcx h) (heapwf_keysUniq hi.wf) _ root mm m hg) hp)) hpop

/-- an operation of a writer history: assign a JSON value at a path / remove at a path -/
inductive WOp where
  | set (path : Heap → List (Step Val)) (jv : J)
  | pop (path : Heap → List (Step Val)) (mustMatch : Bool)

def WOp.valuesWF : WOp → Prop
  | .set _ jv => jv.WFK
  | .pop _ _ => True

/-- run one operation on the store (the value of a `set` is loaded first) -/
def WOp.run (root : Val) (h : Heap) : WOp → Heap
  | .set path jv => (setMatch path (.doc root) false (allocJ h jv).1 (allocJ h jv).2).1
  | .pop path mm => (popMatch path (.doc root) mm h).1

/-- one operation, whatever its outcome, keeps the document a tree: a failed or idle operation
leaves the store as it was (but for the loaded value, which is apart from the document) -/
theorem WOp.run_inv {root : Val} (op : WOp) (hop : op.valuesWF) {h : Heap} {j : J} (hi : DocInv h root j) :
    ∃ j', DocInv (op.run root h) root j' := by
  cases op with
  | set path jv =>
    obtain ⟨i1, _⟩ := alloc_inv h root j jv hi hop
    simp only [WOp.run]
    rcases hr : setMatch path (.doc root) false (allocJ h jv).1 (allocJ h jv).2 with ⟨h', r⟩
    cases r with
    | error e => exact ⟨j, (setMatchN_nocascade hr).1 e rfl ▸ i1⟩
    | ok m =>
      obtain ⟨n, _, hn⟩ := setMatch_ok hr
      obtain ⟨_, _, j1, _, _, i2⟩ := set_fresh_refines path root j jv n h h' m hi hop hn
      exact ⟨j1, i2⟩
  | pop path mm =>
    simp only [WOp.run]
    rcases hr : popMatch path (.doc root) mm h with ⟨h', r⟩
    by_cases hs : ∃ m, r = .ok (some m)
    · obtain ⟨m, rfl⟩ := hs
      obtain ⟨_, _, j1, _, _, _, i2, _⟩ := popMatch_refines path root j h h' mm m hi hr
      exact ⟨j1, i2⟩
    · exact ⟨j, popMatch_other hr (fun m e => hs ⟨m, e⟩) ▸ hi⟩

theorem histories_keep_the_document_a_tree (root : Val) (ops : List WOp) (hops : ∀ op ∈ ops, op.valuesWF) :
    ∀ (h : Heap) (j : J), DocInv h root j → ∃ j', DocInv (ops.foldl (WOp.run root) h) root j' := by
  induction ops with
  | nil => exact fun h j hi => ⟨j, hi⟩
  | cons op ops ih =>
    intro h j hi
    obtain ⟨j1, i1⟩ := WOp.run_inv op (hops op List.mem_cons_self) hi
    exact ih (fun o ho => hops o (List.mem_cons_of_mem _ ho)) _ j1 i1

end Treepath
