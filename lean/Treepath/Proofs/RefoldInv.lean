import Treepath.Proofs.Refold
import Treepath.Proofs.AllocUnf
import Treepath.Proofs.MutateLemmas
import Treepath.Proofs.StreamLemmas
import Treepath.Proofs.Genuine
/-
The invariant of the writer histories — the store unfolds to a tree, without aliasing, with
unique keys per dict: unique keys are kept by every write (`heapwf_hput`, `SetWrite.wf`,
`vertexPop_wf`), footprints stay inside the store (`fp_lt`), and the whole invariant `DocInv` is
established by loading a document and kept by allocation.
-/
namespace Treepath

/-- every dict object has unique keys (what Python dicts guarantee) -/
def HeapWF (h : Heap) : Prop :=
  ∀ (id : Nat) (es : List (String × Val)), h[id]? = some (Obj.dict es) → (es.map Prod.fst).Nodup

theorem heapwf_keysUniq {h : Heap} (hw : HeapWF h) : KeysUniq (hview h) := by
  intro a es hv
  cases a with
  | atom x => simp [hview] at hv
  | ref id =>
    simp only [hview] at hv
    split at hv
    · rename_i es' ho; simp only [View.dict.injEq] at hv; subst hv; exact hw id _ ho
    · simp at hv
    · simp at hv

theorem heapwf_hput {h : Heap} (hw : HeapWF h) (id : Nat) (o : Obj)
    (ho : ∀ es, o = .dict es → (es.map Prod.fst).Nodup) : HeapWF (hput h id o) := by
  intro i es hi
  by_cases he : i = id
  · subst he
    rw [hput_self (hput_size h i o ▸ lt_size_of_get hi)] at hi
    exact ho es (by simpa using (Option.some.inj hi))
  · rw [hput_other he] at hi
    exact hw i es hi

theorem heapwf_push {h : Heap} (hw : HeapWF h) (o : Obj)
    (ho : ∀ es, o = .dict es → (es.map Prod.fst).Nodup) : HeapWF (h.push o) := by
  intro i es hi
  rw [Array.getElem?_push] at hi
  split at hi
  · exact ho es (by simpa using (Option.some.inj hi))
  · exact hw i es hi

theorem SetWrite.wf {h : Heap} {v : Val} {id : Nat} {nm : Name} {o : Obj} (hwr : SetWrite h v id nm o)
    (hw : HeapWF h) : HeapWF (hput h id o) := by
  refine heapwf_hput hw _ _ fun es' he => ?_
  cases hwr with
  | key ho => simp only [Obj.dict.injEq] at he; subst he; exact dictSet_nodup (hw _ _ ho)
  | idx => simp at he
  | append => simp at he

theorem vertexSet_wf {h h' : Heap} (hw : HeapWF h) {s : Step Val} {pm m : MNode Val} {v : Val}
    (hs : vertexSet h s pm v = .ok (h', m)) : HeapWF h' := by
  obtain ⟨id, _, o, _, _, hwr, rfl, _⟩ := vertexSet_ok hs
  exact hwr.wf hw

theorem PopWrite.wf {h : Heap} {id : Nat} {nm : Name} {o : Obj} (hwr : PopWrite h id nm o)
    (hw : HeapWF h) : HeapWF (hput h id o) := by
  refine heapwf_hput hw _ _ fun es' he => ?_
  cases hwr with
  | key ho => simp only [Obj.dict.injEq] at he; subst he; exact (dictErase_keys_sublist _ _).nodup (hw _ _ ho)
  | idx => simp at he

theorem vertexPop_wf {h h' : Heap} (hw : HeapWF h) {last : Option (Step Val)} {m : MNode Val}
    (hp : vertexPop h last m = .ok h') : HeapWF h' := by
  obtain ⟨_, id, _, o, _, _, _, hwr, rfl⟩ := vertexPop_ok hp
  exact hwr.wf hw

mutual
theorem fp_lt {h : Heap} : ∀ {j : J} {v : Val}, UnfJ h j v → ∀ x ∈ fpJ h j v, x < h.size
  | .obj kvs, .ref id => fun hu x hx => by
    obtain ⟨es, ho, hkv⟩ := hu
    rw [fpJ_obj ho] at hx
    rcases List.mem_cons.mp hx with rfl | hx
    · exact lt_size_of_get ho
    · exact fpKvs_lt hkv x hx
  | .arr ys, .ref id => fun hu x hx => by
    obtain ⟨xs, ho, hl⟩ := hu
    rw [fpJ_arr ho] at hx
    rcases List.mem_cons.mp hx with rfl | hx
    · exact lt_size_of_get ho
    · exact fpList_lt hl x hx
  | .obj _, .atom _ => fun _ _ hx => (List.not_mem_nil hx).elim
  | .arr _, .atom _ => fun _ _ hx => (List.not_mem_nil hx).elim
  | .null, _ => fun _ _ hx => (List.not_mem_nil hx).elim
  | .bool _, _ => fun _ _ hx => (List.not_mem_nil hx).elim
  | .int _, _ => fun _ _ hx => (List.not_mem_nil hx).elim
  | .half _, _ => fun _ _ hx => (List.not_mem_nil hx).elim
  | .str _, _ => fun _ _ hx => (List.not_mem_nil hx).elim
theorem fpKvs_lt {h : Heap} : ∀ {kvs : List (String × J)} {es : List (String × Val)}, UnfKvsJ h kvs es →
    ∀ x ∈ fpKvs h kvs es, x < h.size
  | (_, j) :: kvs, (_, v) :: es => fun hu x hx =>
    (List.mem_append.mp hx).elim (fp_lt hu.2.1 x) (fpKvs_lt hu.2.2 x)
  | [], _ => fun _ _ hx => (List.not_mem_nil hx).elim
  | _ :: _, [] => fun _ _ hx => (List.not_mem_nil hx).elim
theorem fpList_lt {h : Heap} : ∀ {ys : List J} {xs : List Val}, UnfListJ h ys xs → ∀ x ∈ fpList h ys xs, x < h.size
  | j :: ys, v :: xs => fun hu x hx =>
    (List.mem_append.mp hx).elim (fp_lt hu.1 x) (fpList_lt hu.2 x)
  | [], _ => fun _ _ hx => (List.not_mem_nil hx).elim
  | _ :: _, [] => fun _ _ hx => (List.not_mem_nil hx).elim
end

theorem fp_ext {h h' : Heap} (he : Ext h h') {j : J} {v : Val} (hx : UnfJ h j v) : fpJ h' j v = fpJ h j v :=
  (unf_congr h' hx fun x _ => he x).2

mutual
theorem allocJ_wf : ∀ (h : Heap) (j : J), HeapWF h → j.WFK → HeapWF (allocJ h j).1
  | h, .arr xs => fun hw hj => by
    simp only [allocJ]
    exact heapwf_push (allocList_wf h xs hw hj) _ nofun
  | h, .obj kvs => fun hw hj => by
    simp only [allocJ]
    refine heapwf_push (allocKvs_wf h kvs hw hj.2) _ fun es he => ?_
    cases he
    rw [(unfKvs_iff.mp (allocKvs_loads h kvs).2.1).1]
    exact hj.1
  | h, .null => fun hw _ => hw
  | h, .bool _ => fun hw _ => hw
  | h, .int _ => fun hw _ => hw
  | h, .half _ => fun hw _ => hw
  | h, .str _ => fun hw _ => hw
theorem allocList_wf : ∀ (h : Heap) (xs : List J), HeapWF h → J.WFList xs → HeapWF (allocJ.allocList h xs).1
  | _, [] => fun hw _ => hw
  | h, x :: xs => fun hw hj => allocList_wf _ xs (allocJ_wf h x hw hj.1) hj.2
theorem allocKvs_wf : ∀ (h : Heap) (kvs : List (String × J)), HeapWF h → J.WFKvs kvs → HeapWF (allocJ.allocKvs h kvs).1
  | _, [] => fun hw _ => hw
  | h, (_, x) :: kvs => fun hw hj => allocKvs_wf _ kvs (allocJ_wf h x hw hj.1) hj.2
end

/-- the document `root` of store `h` *is* the tree `j`: it unfolds to it, through objects met
once each (no aliasing), and dicts have unique keys.  `unf` and `sep` speak of this root; `wf`
is asked of the whole store, because the searches read it through `hview h` and their matches are
genuine only where that view has unique keys (`getMatch_gen` wants `KeysUniq (hview h)`). -/
structure DocInv (h : Heap) (root : Val) (j : J) : Prop where
  unf : UnfJ h j root
  sep : (fpJ h j root).Nodup
  wf : HeapWF h

theorem loaded_inv (j : J) (hj : j.WFK) : DocInv (allocJ #[] j).1 (allocJ #[] j).2 j :=
  ⟨(allocJ_spec #[] j).2, (allocJ_fp #[] j).1, allocJ_wf #[] j (fun _ _ h => by simp at h) hj⟩

theorem alloc_inv (h : Heap) (root : Val) (j jv : J) (hi : DocInv h root j) (hjv : jv.WFK) :
    DocInv (allocJ h jv).1 root j ∧ UnfJ (allocJ h jv).1 jv (allocJ h jv).2 ∧
    (fpJ (allocJ h jv).1 jv (allocJ h jv).2).Nodup ∧
    ∀ x ∈ fpJ (allocJ h jv).1 jv (allocJ h jv).2, x ∉ fpJ (allocJ h jv).1 j root := by
  obtain ⟨e1, u1⟩ := allocJ_spec h jv
  obtain ⟨n1, n2⟩ := allocJ_fp h jv
  have hfp := fp_ext e1 hi.unf
  refine ⟨⟨unf_survives_allocation h _ root j e1 hi.unf, by rw [hfp]; exact hi.sep, allocJ_wf h jv hi.wf hjv⟩, u1, n1, ?_⟩
  intro x hx hm
  rw [hfp] at hm
  have := fp_lt hi.unf x hm
  have := (n2 x hx).1
  omega

end Treepath
