import Treepath.Proofs.Stack
import Treepath.Proofs.StepLemmas
/-
Naturality of the traverser in the document type.  The machine looks at documents only through
`view : α → View α`.  Given a relation `Rel : α → β → Prop` that the two views respect (related
values have related views: same kind, same keys / length, related members), related stack-machine
states take related steps — the run on one document type is the image of the run on the other.
With "heap value `v` unfolds to tree `j`" this carries what is proved about JSON trees to the object store.
-/
namespace Treepath

inductive LRel {γ δ : Type} (R : γ → δ → Prop) : List γ → List δ → Prop where
  | nil : LRel R [] []
  | cons {a b l l'} : R a b → LRel R l l' → LRel R (a :: l) (b :: l')

def ORel {γ δ : Type} (R : γ → δ → Prop) : Option γ → Option δ → Prop
  | none, none => True
  | some a, some b => R a b
  | _, _ => False

theorem ORel.map {γ δ γ' δ' : Type} {R : γ → δ → Prop} {S : γ' → δ' → Prop} {f : γ → γ'} {g : δ → δ'}
    {o : Option γ} {o' : Option δ} (h : ORel R o o') (hf : ∀ a b, R a b → S (f a) (g b)) :
    ORel S (o.map f) (o'.map g) := by
  cases o <;> cases o' <;> first | exact h | exact hf _ _ h

theorem ORel.none_or_some {γ δ : Type} {R : γ → δ → Prop} {o : Option γ} {o' : Option δ} (h : ORel R o o') :
    (o = none ∧ o' = none) ∨ ∃ a b, o = some a ∧ o' = some b ∧ R a b := by
  cases o <;> cases o' <;> first | exact h.elim | exact .inl ⟨rfl, rfl⟩ | exact .inr ⟨_, _, rfl, rfl, h⟩

namespace LRel
variable {γ δ γ' δ' : Type} {R : γ → δ → Prop}

theorem length_eq {l : List γ} {l' : List δ} (h : LRel R l l') : l.length = l'.length := by
  induction h with
  | nil => rfl
  | cons _ _ ih => exact congrArg (· + 1) ih

theorem getElem? {l : List γ} {l' : List δ} (h : LRel R l l') : ∀ i : Nat, ORel R l[i]? l'[i]? := by
  induction h with
  | nil => exact fun _ => trivial
  | cons hab _ ih => exact fun
    | 0 => hab
    | i+1 => ih i

theorem map {S : γ' → δ' → Prop} {f : γ → γ'} {g : δ → δ'} {l : List γ} {l' : List δ}
    (h : LRel R l l') (hf : ∀ a b, R a b → S (f a) (g b)) : LRel S (l.map f) (l'.map g) := by
  induction h with
  | nil => exact .nil
  | cons hab _ ih => exact .cons (hf _ _ hab) ih

theorem append {l1 l2 : List γ} {m1 m2 : List δ} (h1 : LRel R l1 m1) (h2 : LRel R l2 m2) :
    LRel R (l1 ++ l2) (m1 ++ m2) := by
  induction h1 with
  | nil => exact h2
  | cons hab _ ih => exact .cons hab ih

theorem filterMap {S : γ' → δ' → Prop} {ι : Type} (xs : List ι) (f : ι → Option γ') (g : ι → Option δ')
    (h : ∀ i, ORel S (f i) (g i)) : LRel S (xs.filterMap f) (xs.filterMap g) := by
  induction xs with
  | nil => exact .nil
  | cons x xs ih =>
    rcases (h x).none_or_some with ⟨hf, hg⟩ | ⟨a, b, hf, hg, hab⟩
    · rw [List.filterMap_cons_none hf, List.filterMap_cons_none hg]; exact ih
    · rw [List.filterMap_cons_some hf, List.filterMap_cons_some hg]; exact .cons hab ih

theorem getLast? {l : List γ} {l' : List δ} (h : LRel R l l') : ORel R l.getLast? l'.getLast? := by
  induction h with
  | nil => exact trivial
  | cons hab t ih =>
    cases t with
    | nil => exact hab
    | cons _ _ => simpa [List.getLast?_cons_cons] using ih

end LRel

section
variable {α β : Type} (Rel : α → β → Prop)

def KvRel (a : String × α) (b : String × β) : Prop := a.1 = b.1 ∧ Rel a.2 b.2
def ItemRel (a : Name × α) (b : Name × β) : Prop := a.1 = b.1 ∧ Rel a.2 b.2

inductive ViewRel : View α → View β → Prop where
  | scalar : ViewRel .scalar .scalar
  | dict {es es'} : LRel (KvRel Rel) es es' → ViewRel (.dict es) (.dict es')
  | list {xs xs'} : LRel Rel xs xs' → ViewRel (.list xs) (.list xs')

inductive NodeRel : MNode α → MNode β → Prop where
  | root {a b} : Rel a b → NodeRel (.root a) (.root b)
  | child {p q nm a b} : NodeRel p q → Rel a b → NodeRel (.child p nm a) (.child q nm b)
  | imag {p q} : NodeRel p q → NodeRel (.imag p) (.imag q)
  | par {r r' f f'} : NodeRel r r' → NodeRel f f' → NodeRel (.par r f) (.par r' f')

variable {Rel}

theorem NodeRel.data {n : MNode α} {m : MNode β} (h : NodeRel Rel n m) : Rel n.data m.data := by
  induction h with
  | root h => exact h
  | child _ h _ => exact h
  | imag _ ih => exact ih
  | par _ _ ih _ => exact ih

theorem NodeRel.remParent {n : MNode α} {m : MNode β} (h : NodeRel Rel n m) :
    ORel (NodeRel Rel) n.remParent m.remParent := by
  induction h with
  | root _ => simp [MNode.remParent, ORel]
  | child hp _ _ => simpa [MNode.remParent, ORel] using hp
  | imag _ ih => exact ih
  | par _ _ ih _ => exact ih

theorem NodeRel.loc {n : MNode α} {m : MNode β} (h : NodeRel Rel n m) : n.loc = m.loc := by
  induction h with
  | root _ => rfl
  | child _ _ ih => simp [MNode.loc, ih]
  | imag _ ih => exact ih
  | par _ _ ih _ => exact ih

theorem NodeRel.dataName {n : MNode α} {m : MNode β} (h : NodeRel Rel n m) : n.dataName = m.dataName := by
  induction h with
  | root _ => rfl
  | child _ _ _ => rfl
  | imag _ ih => exact ih
  | par _ _ ih _ => exact ih

theorem NodeRel.segs {n : MNode α} {m : MNode β} (h : NodeRel Rel n m) : n.segs = m.segs := by
  induction h with
  | root _ => rfl
  | child _ _ ih => simp [MNode.segs, ih]
  | imag _ ih => exact ih
  | par hr _ _ ihf => simp [MNode.segs, ihf, hr.dataName]

theorem NodeRel.pathStr {n : MNode α} {m : MNode β} (h : NodeRel Rel n m) : n.pathStr = m.pathStr := by
  simp [MNode.pathStr, h.segs]

variable (Rel)

inductive EvRel : Ev α → Ev β → Prop where
  | attempt {l l' vi nx nx' st st'} : NodeRel Rel l l' → ORel (NodeRel Rel) nx nx' → ORel (NodeRel Rel) st st' →
      EvRel (.attempt l vi nx st) (.attempt l' vi nx' st')
  | predCall {c c'} : NodeRel Rel c c' → EvRel (.predCall c) (.predCall c')
  | fnCall (nm : String) (v : J) : EvRel (.fnCall nm v) (.fnCall nm v)
  | result {n n'} : NodeRel Rel n n' → EvRel (.result n) (.result n')
  | raised (e : Exc) : EvRel (.raised e) (.raised e)
  | stop : EvRel .stop .stop

inductive SigRel : Sig α → Sig β → Prop where
  | none : SigRel .none .none
  | result {n n'} : NodeRel Rel n n' → SigRel (.result n) (.result n')
  | stop : SigRel .stop .stop
  | raised (e : Exc) : SigRel (.raised e) (.raised e)
  | bug (m : String) : SigRel (.bug m) (.bug m)

def PredRel (f : Pred α) (g : Pred β) : Prop :=
  ∀ n m, NodeRel Rel n m → (f n).res = (g m).res ∧ LRel (EvRel Rel) (f n).evs (g m).evs

inductive StepRel : Step α → Step β → Prop where
  | key (k : String) : StepRel (.key k) (.key k)
  | idx (i : Int) : StepRel (.idx i) (.idx i)
  | slice (a b c : Option Int) : StepRel (.slice a b c) (.slice a b c)
  | tuple (ns : List Name) : StepRel (.tuple ns) (.tuple ns)
  | keyWc : StepRel .keyWc .keyWc
  | idxWc : StepRel .idxWc .idxWc
  | gwc : StepRel .gwc .gwc
  | recur : StepRel .recur .recur
  | parent : StepRel .parent .parent
  | filter {f g} : PredRel Rel f g → StepRel (.filter f) (.filter g)

structure FrameRel (a : Frame α) (b : Frame β) : Prop where
  owner : NodeRel Rel a.owner b.owner
  vidx : a.vidx = b.vidx
  items : LRel (ItemRel Rel) a.items b.items

inductive ASRel : AS α → AS β → Prop where
  | init : ASRel .init .init
  | report {n n' v i s s'} : NodeRel Rel n n' → LRel (FrameRel Rel) s s' → ASRel (.report n v i s) (.report n' v i s')
  | catch_ {s s'} : LRel (FrameRel Rel) s s' → ASRel (.catch_ s) (.catch_ s')
  | attempt {n n' i s s'} : NodeRel Rel n n' → LRel (FrameRel Rel) s s' → ASRel (.attempt n i s) (.attempt n' i s')
  | parked {s s'} : LRel (FrameRel Rel) s s' → ASRel (.parked s) (.parked s')
  | done : ASRel .done .done

variable {Rel}

theorem resume_rel {s : List (Frame α)} {s' : List (Frame β)} (h : LRel (FrameRel Rel) s s') :
    ASRel Rel (resume s) (resume s') := by
  cases h with
  | nil => exact .done
  | cons a b => exact .parked (.cons a b)

theorem lookup_rel {es : List (String × α)} {es' : List (String × β)} (h : LRel (KvRel Rel) es es') (k : String) :
    ORel Rel (es.lookup k) (es'.lookup k) := by
  induction h with
  | nil => trivial
  | @cons a b l l' hab _ ih =>
    simp only [List.lookup, ← hab.1]
    split
    · exact hab.2
    · exact ih

theorem getPy?_rel {xs : List α} {xs' : List β} (h : LRel Rel xs xs') (i : Int) :
    ORel Rel (getPy? xs i) (getPy? xs' i) := by
  unfold getPy?
  rw [h.length_eq]
  split
  · exact h.getElem? _
  · split
    · exact h.getElem? _
    · trivial

theorem childAt_rel {v : View α} {w : View β} (h : ViewRel Rel v w) (nm : Name) :
    ORel Rel (childAt v nm) (childAt w nm) := by
  cases nm <;> cases h <;> simp only [childAt, ORel]
  · exact lookup_rel ‹_› _
  · exact getPy?_rel ‹_› _

theorem dictItems_rel {es : List (String × α)} {es' : List (String × β)} (h : LRel (KvRel Rel) es es') :
    LRel (ItemRel Rel) (dictItems es) (dictItems es') := by
  simp only [dictItems]
  exact h.map (fun a b hab => ⟨by simp [hab.1], hab.2⟩)

theorem enumFrom_rel {xs : List α} {xs' : List β} (h : LRel Rel xs xs') (i : Nat) :
    LRel (fun (a : Nat × α) (b : Nat × β) => a.1 = b.1 ∧ Rel a.2 b.2) (enumFrom i xs) (enumFrom i xs') := by
  induction h generalizing i with
  | nil => exact .nil
  | cons hab _ ih => exact .cons ⟨rfl, hab⟩ (ih (i+1))

theorem listItems_rel {xs : List α} {xs' : List β} (h : LRel Rel xs xs') :
    LRel (ItemRel Rel) (listItems xs) (listItems xs') := by
  simp only [listItems]
  exact (enumFrom_rel h 0).map (fun a b hab => ⟨by simp [hab.1], hab.2⟩)

theorem allItems_rel {v : View α} {w : View β} (h : ViewRel Rel v w) :
    ORel (LRel (ItemRel Rel)) (allItems v) (allItems w) := by
  cases h with
  | scalar => simp [allItems, ORel]
  | dict h => simpa [allItems, ORel] using dictItems_rel h
  | list h => simpa [allItems, ORel] using listItems_rel h

inductive ItemsRel : Items α → Items β → Prop where
  | wrongKind : ItemsRel .wrongKind .wrongKind
  | valueError : ItemsRel .valueError .valueError
  | ok {a b} : LRel (ItemRel Rel) a b → ItemsRel (.ok a) (.ok b)

theorem sliceItems_rel {xs : List α} {xs' : List β} (h : LRel Rel xs xs') (a b c : Option Int) :
    ORel (LRel (fun (p : Int × α) (q : Int × β) => p.1 = q.1 ∧ Rel p.2 q.2)) (sliceItems a b c xs) (sliceItems a b c xs') := by
  simp only [sliceItems, h.length_eq]
  split
  · trivial
  · exact LRel.filterMap _ _ _ fun i => (h.getElem? i.toNat).map fun _ _ hab => ⟨rfl, hab⟩

theorem itemsOf_rel {s : Step α} {t : Step β} (hs : StepRel Rel s t) {v : View α} {w : View β} (h : ViewRel Rel v w) :
    ItemsRel (Rel := Rel) (itemsOf s v) (itemsOf t w) := by
  have tuple : ∀ ns : List Name, LRel (ItemRel Rel) (ns.filterMap fun n => (childAt v n).map fun x => (n, x))
      (ns.filterMap fun n => (childAt w n).map fun x => (n, x)) :=
    fun ns => LRel.filterMap ns _ _ fun n => (childAt_rel h n).map fun _ _ hab => ⟨rfl, hab⟩
  cases h with
  | scalar => rw [itemsOf_scalar, itemsOf_scalar]; exact .wrongKind
  | dict he =>
    cases hs with
    | keyWc | gwc => exact .ok (dictItems_rel he)
    | tuple ns => rw [itemsOf_tuple, itemsOf_tuple]; exact .ok (tuple ns)
    | _ => exact .wrongKind
  | @list xs xs' hx =>
    cases hs with
    | idxWc | gwc => exact .ok (listItems_rel hx)
    | tuple ns => rw [itemsOf_tuple, itemsOf_tuple]; exact .ok (tuple ns)
    | slice a b c =>
      simp only [itemsOf]
      rcases (sliceItems_rel hx a b c).none_or_some with ⟨h1, h2⟩ | ⟨its, its', h1, h2, hi⟩
      · rw [h1, h2]; exact .valueError
      · rw [h1, h2]; exact .ok (hi.map fun _ _ hpq => ⟨congrArg Name.idx hpq.1, hpq.2⟩)
    | _ => exact .wrongKind

theorem singleOf_rel (va : α → View α) (vb : β → View β) (hview : ∀ a b, Rel a b → ViewRel Rel (va a) (vb b))
    {s : Step α} {t : Step β} (hs : StepRel Rel s t) {n : MNode α} {m : MNode β} (hn : NodeRel Rel n m) :
    ORel (NodeRel Rel) (singleOf va s n) (singleOf vb t m) := by
  have hv := hview _ _ hn.data
  cases hs with
  | key k => rw [singleOf_key, singleOf_key]; exact (childAt_rel hv _).map fun a b hab => .child hn hab
  | idx i => rw [singleOf_idx, singleOf_idx]; exact (childAt_rel hv _).map fun a b hab => .child hn hab
  | parent => exact hn.remParent.map fun a b hab => .par hab hn
  | _ => trivial

def OutRel (x : AS α × List (Ev α) × Sig α) (y : AS β × List (Ev β) × Sig β) : Prop :=
  ASRel Rel x.1 y.1 ∧ LRel (EvRel Rel) x.2.1 y.2.1 ∧ SigRel Rel x.2.2 y.2.2

section outcomes
variable {n : MNode α} {m : MNode β} (hn : NodeRel Rel n m) (vi : Nat)
  {s : List (Frame α)} {s' : List (Frame β)} (hs : LRel (FrameRel Rel) s s')
include hn hs

theorem miss_rel {pre : List (Ev α)} {pre' : List (Ev β)} (hpre : LRel (EvRel Rel) pre pre') :
    OutRel (Rel := Rel) (resume s, pre ++ [.attempt n (vi+1) none none], .none)
      (resume s', pre' ++ [.attempt m (vi+1) none none], .none) :=
  ⟨resume_rel hs, hpre.append (.cons (.attempt hn trivial trivial) .nil), .none⟩

theorem hit_rel {n' : MNode α} {m' : MNode β} (hn' : NodeRel Rel n' m') (v' : Nat)
    {pre : List (Ev α)} {pre' : List (Ev β)} (hpre : LRel (EvRel Rel) pre pre') :
    OutRel (Rel := Rel) (.report n' (vi+1) v' s, pre ++ [.attempt n (vi+1) (some n') none], .none)
      (.report m' (vi+1) v' s', pre' ++ [.attempt m (vi+1) (some m') none], .none) :=
  ⟨.report hn' hs, hpre.append (.cons (.attempt hn hn' trivial) .nil), .none⟩

theorem aIter_rel {its : List (Name × α)} {its' : List (Name × β)} (hi : LRel (ItemRel Rel) its its') :
    OutRel (Rel := Rel) (aIter n vi its s) (aIter m vi its' s') := by
  cases hi with
  | nil => exact miss_rel hn vi hs .nil
  | @cons a b l l' hab hl =>
    obtain ⟨nm, x⟩ := a
    obtain ⟨nm', x'⟩ := b
    simp only [ItemRel] at hab
    obtain ⟨rfl, hx⟩ := hab
    exact hit_rel hn vi (.cons ⟨hn, rfl, hl⟩ hs) (.child hn hx) _ .nil

theorem aRecIter_rel (va : α → View α) (vb : β → View β) (hview : ∀ a b, Rel a b → ViewRel Rel (va a) (vb b))
    {its : List (Name × α)} {its' : List (Name × β)} (hi : LRel (ItemRel Rel) its its') :
    OutRel (Rel := Rel) (aRecIter va n vi its s) (aRecIter vb m vi its' s') := by
  cases hi with
  | nil => exact miss_rel hn vi hs .nil
  | @cons a b l l' hab hl =>
    obtain ⟨nm, x⟩ := a
    obtain ⟨nm', x'⟩ := b
    simp only [ItemRel] at hab
    obtain ⟨rfl, hx⟩ := hab
    have hc : NodeRel Rel (.child n nm x) (.child m nm x') := .child hn hx
    have hfr : LRel (FrameRel Rel) (⟨n, vi, l⟩ :: s) (⟨m, vi, l'⟩ :: s') := .cons ⟨hn, rfl, hl⟩ hs
    simp only [aRecIter]
    rcases (allItems_rel (hview x x' hx)).none_or_some with ⟨h1, h2⟩ | ⟨cits, cits', h1, h2, hall⟩
    · simp only [h1, h2]
      exact hit_rel hn vi hfr hc _ .nil
    · simp only [h1, h2]
      exact hit_rel hn vi (.cons ⟨hc, rfl, hall⟩ hfr) (.imag hc) _ .nil

end outcomes

section machine
variable (va : α → View α) (vb : β → View β) (hview : ∀ a b, Rel a b → ViewRel Rel (va a) (vb b))
  (sa : Array (Step α)) (sb : Array (Step β)) (hsteps : LRel (StepRel Rel) sa.toList sb.toList)
  (srca : Src α) (srcb : Src β) (hsrc : NodeRel Rel srca.rootNode srcb.rootNode)
include hview hsteps hsrc

omit hview hsrc in
theorem steps_get (i : Nat) : ORel (StepRel Rel) sa[i]? sb[i]? := by
  rw [← Array.getElem?_toList, ← Array.getElem?_toList]
  exact hsteps.getElem? i

omit hsrc in
theorem aAttempt_rel {n : MNode α} {m : MNode β} (hn : NodeRel Rel n m) (vi : Nat)
    {s : List (Frame α)} {s' : List (Frame β)} (hs : LRel (FrameRel Rel) s s') :
    OutRel (Rel := Rel) (aAttempt va sa n vi s) (aAttempt vb sb m vi s') := by
  rcases (steps_get (Rel := Rel) sa sb hsteps vi).none_or_some with ⟨h1, h2⟩ | ⟨st, tt, h1, h2, hst⟩
  · simp only [aAttempt, h1, h2]
    exact ⟨.attempt hn hs, .nil, .bug _⟩
  have hv := hview _ _ hn.data
  have hcls : tt.cls = st.cls := by cases hst <;> rfl
  -- by class of step, so that each arm is checked once (not once per constructor)
  cases hcl : st.cls with
  | filter =>
    obtain ⟨f, rfl⟩ := Step.eq_filter_of_cls hcl
    cases hst with
    | @filter _ g hp =>
      obtain ⟨hres, hevs⟩ := hp n m hn
      have hpre : LRel (EvRel Rel) (.predCall n :: (f n).evs) (.predCall m :: (g m).evs) := .cons (.predCall hn) hevs
      simp only [aAttempt, h1, h2, hres]
      cases (g m).res with
      | val j =>
        simp only
        split
        · exact hit_rel hn vi hs (.imag hn) _ hpre
        · exact miss_rel hn vi hs hpre
      | raise e => exact ⟨.attempt hn hs, hpre.append (.cons (.raised _) .nil), .raised _⟩
  | recur =>
    obtain rfl := Step.eq_recur_of_cls hcl
    obtain rfl := Step.eq_recur_of_cls (hcls.trans hcl)
    simp only [aAttempt, h1, h2]
    rcases (allItems_rel hv).none_or_some with ⟨h3, h4⟩ | ⟨its, its', h3, h4, hi⟩
    · simp only [h3, h4]
      exact miss_rel hn vi hs .nil
    · simp only [h3, h4]
      exact hit_rel hn vi (.cons ⟨hn, rfl, hi⟩ hs) (.imag hn) _ .nil
  | single =>
    rw [aAttempt_single va sa st hcl n vi s h1, aAttempt_single vb sb tt (hcls.trans hcl) m vi s' h2]
    rcases (singleOf_rel va vb hview hst hn).none_or_some with ⟨e1, e2⟩ | ⟨n', m', e1, e2, hn'⟩
    · rw [e1, e2]; exact miss_rel hn vi hs .nil
    · rw [e1, e2]; exact hit_rel hn vi hs hn' _ .nil
  | multi =>
    rw [aAttempt_multi va sa st hcl n vi s h1, aAttempt_multi vb sb tt (hcls.trans hcl) m vi s' h2]
    have hi := itemsOf_rel hst hv
    generalize itemsOf st (va n.data) = ia at hi ⊢
    generalize itemsOf tt (vb m.data) = ib at hi ⊢
    cases hi with
    | wrongKind => exact miss_rel hn vi hs .nil
    | valueError => exact ⟨.attempt hn hs, .cons (.raised _) .nil, .raised _⟩
    | ok hi => exact aIter_rel hn vi hs hi

/-- **one action, related**: related states take related steps -/
theorem astep_rel {as : AS α} {bs : AS β} (h : ASRel Rel as bs) :
    OutRel (Rel := Rel) (astep va sa srca as) (astep vb sb srcb bs) := by
  have hsize : sa.size = sb.size := by
    have := hsteps.length_eq; simpa using this
  cases h with
  | init => exact ⟨.report hsrc .nil, .nil, .none⟩
  | done => exact ⟨.done, .cons .stop .nil, .stop⟩
  | @report n n' v i s s' hn hs =>
    simp only [astep, hsize]
    split
    · exact ⟨.catch_ hs, .cons (.result hn) .nil, .result hn⟩
    · exact ⟨.attempt hn hs, .nil, .none⟩
  | catch_ hs => exact ⟨resume_rel hs, .nil, .none⟩
  | attempt hn hs => exact aAttempt_rel va vb hview sa sb hsteps hn _ hs
  | parked hs =>
    cases hs with
    | nil => exact ⟨.done, .nil, .bug _⟩
    | @cons fr fr' stk stk' hfr hstk =>
      obtain ⟨ho, hv, hi⟩ := hfr
      simp only [astep, ← hv]
      rcases (steps_get (Rel := Rel) sa sb hsteps fr.vidx).none_or_some with ⟨h1, h2⟩ | ⟨st, tt, h1, h2, hst⟩
      · rw [h1, h2]
        exact ⟨.parked (.cons ⟨ho, hv, hi⟩ hstk), .nil, .bug _⟩
      · rw [h1, h2]
        -- a suspended `..` resumes with `aRecIter`, every other iteration with `aIter`
        cases hst with
        | recur => exact aRecIter_rel ho _ hstk va vb hview hi
        | _ => exact aIter_rel ho _ hstk hi

theorem arun_rel (k : Nat) {as : AS α} {bs : AS β} (h : ASRel Rel as bs) :
    ASRel Rel (arun va sa srca k as).1 (arun vb sb srcb k bs).1 ∧
    LRel (EvRel Rel) (arun va sa srca k as).2 (arun vb sb srcb k bs).2 := by
  induction k generalizing as bs with
  | zero => exact ⟨h, .nil⟩
  | succ k ih =>
    obtain ⟨h1, h2, _⟩ := astep_rel va vb hview sa sb hsteps srca srcb hsrc h
    obtain ⟨h3, h4⟩ := ih h1
    exact ⟨h3, LRel.append h2 h4⟩

end machine

end
end Treepath
