import Treepath.Proofs.StreamEval
/- the number of match attempts of a search is at most twice the number of node/step
examinations its definition requires -/
namespace Treepath

theorem attempts_append {α} (a b : List (Ev α)) : attempts (a ++ b) = attempts a + attempts b :=
  List.countP_append
theorem attempts_attempt {α} (l : MNode α) (vi : Nat) (nx st : Option (MNode α)) (t : List (Ev α)) :
    attempts (.attempt l vi nx st :: t) = 1 + attempts t :=
  (List.countP_cons_of_pos rfl).trans (Nat.add_comm _ _)

theorem attempts_items (rest : List (Step J)) (vi : Nat) (n : MNode J) (its : List (Name × J)) :
    attempts (its.flatMap fun (nm, x) =>
        Ev.attempt n (vi+1) (some (MNode.child n nm x)) none :: stream rest (vi+1) (MNode.child n nm x)) =
      its.length + (its.map fun (nm, x) => attempts (stream rest (vi+1) (.child n nm x))).sum := by
  induction its with
  | nil => rfl
  | cons it tl ih =>
    simp only [List.flatMap_cons, attempts_append, attempts_attempt, List.map_cons, List.sum_cons, List.length_cons, ih]
    omega

/-- every attempt event a predicate emits is stamped with its candidate (true of the
has-family: the nested search's events carry `predicate_match`) -/
def PredsStamped (ss : List (Step J)) : Prop :=
  ∀ s ∈ ss, ∀ f, s = .filter f → ∀ n, attemptsTop (f n).evs = 0

theorem PredsStamped.tail {s : Step J} {rest : List (Step J)} (h : PredsStamped (s :: rest)) : PredsStamped rest :=
  fun t ht => h t (List.mem_cons_of_mem _ ht)

/-- examinations charged to one pre-order node by a recursive step -/
def recW (rest : List (Step J)) (m : MNode J) : Nat :=
  1 + (if m.data.isContainer then exams rest (.imag m) else 0)

theorem sum_flatMap_map {β} (f : β → List (MNode J)) (g : MNode J → Nat) (l : List β) :
    ((l.flatMap f).map g).sum = (l.map fun x => ((f x).map g).sum).sum := by
  induction l with
  | nil => rfl
  | cons x xs ih => simp [List.flatMap_cons, ih]

theorem attemptsTop_flatMap_le {β} (f : β → List (Ev J)) (g : β → Nat) (l : List β)
    (h : ∀ x ∈ l, attemptsTop (f x) ≤ 2 * g x) : attemptsTop (l.flatMap f) ≤ 2 * (l.map g).sum := by
  induction l with
  | nil => exact Nat.le_refl _
  | cons x xs ih =>
    simp only [List.flatMap_cons, attemptsTop_append, List.map_cons, List.sum_cons]
    have := h x List.mem_cons_self
    have := ih fun y hy => h y (List.mem_cons_of_mem _ hy)
    omega

theorem exams_cons {s : Step J} {rest : List (Step J)} {n : MNode J} (hs : s.cls ≠ .recur) :
    exams (s :: rest) n = 1 + ((evalStep s n).1.map fun m => 1 + exams rest m).sum := by
  cases s with
  | recur => exact absurd rfl hs
  | _ => rfl

theorem work_recBody (rest : List (Step J)) (vi : Nat)
    (ih : ∀ m : MNode J, attemptsTop (stream rest (vi+1) m) ≤ 2 * exams rest m) (j : J) :
    ∀ m : MNode J, m.data = j → j.isContainer = true →
      1 + attemptsTop (recBody (fun m => stream rest (vi+1) m) rest.isEmpty vi m j) ≤
        2 * ((preNodes m j).map (recW rest)).sum := by
  induction j using J.items_induction with
  | scalar x hc => intro m _ h; rw [(allItems_none_iff x).mp hc] at h; cases h
  | container x its hc ihx =>
    intro m hm hx
    have hitems : attemptsTop (recItems (fun m => stream rest (vi+1) m) rest.isEmpty vi m its) ≤
        2 * ((preItems m its).map (recW rest)).sum := by
      simp only [recItems, preItems, sum_flatMap_map]
      refine attemptsTop_flatMap_le _ _ its fun it hit => ?_
      cases hci : it.2.isContainer with
      | true =>
        rw [recChild_body hci, attemptsTop_attempt]
        exact ihx it hit (.child m it.1 it.2) rfl hci
      | false =>
        have hs := (allItems_none_iff it.2).mpr hci
        rw [recChild_scalar hs, preNodes_scalar hs]
        cases rest.isEmpty <;> simp [attemptsTop_attempt, attemptsTop_result, recW, MNode.data, hci]
    have hk := ih (.imag m)
    simp only [recBody_items hc, preNodes_container hc, attemptsTop_attempt, attemptsTop_append,
      attemptsTop_nil, List.map_cons, List.sum_cons, recW, hm, hx, if_true]
    omega

/-- **work bound**: match attempts ≤ 2 × examinations, for every tree and every path whose
predicates' own events are stamped.  Two, because a node a step is applied to costs the attempt
that reaches it and, where the step iterates, the attempt that finds the iterator exhausted. -/
theorem work_bound (p : List (Step J)) (hp : PredsStamped p) :
    ∀ (vi : Nat) (n : MNode J), attemptsTop (stream p vi n) ≤ 2 * exams p n := by
  intro vi n
  induction p, vi, n using stream_induction with
  | nil vi n => simp [stream, exams, attemptsTop_result]
  | miss s rest vi n hc hso he =>
    rw [he, exams_cons (by simp [hc])]
    simp [evalStep, hc, hso, attemptsTop_attempt]
  | hit s rest vi n n' hc hso he ih =>
    have := ih hp.tail
    rw [he, exams_cons (by simp [hc])]
    simp [evalStep, hc, hso, attemptsTop_attempt]
    omega
  | filter f rest vi n he ih =>
    have := ih hp.tail
    have hst := hp (.filter f) (by simp) f rfl n
    rw [he, exams_cons (by simp [Step.cls])]
    simp only [attemptsTop_predCall, attemptsTop_append, hst, evalStep, Step.cls]
    cases (f n).res with
    | val j => by_cases ht : j.truthy = true <;> simp [ht, attemptsTop_attempt] <;> omega
    | raise e => simp [attemptsTop_raised]
  | wrongKind s rest vi n hc hio he =>
    rw [he, exams_cons (by simp [hc])]
    simp [evalStep, hc, hio, attemptsTop_attempt]
  | valueError s rest vi n hc hio he => simp [he, attemptsTop_raised]
  | items s rest vi n its hc hio he ih =>
    rw [he, exams_cons (by simp [hc])]
    simp only [evalStep, hc, hio, attemptsTop_append, attemptsTop_attempt, attemptsTop_nil, List.map_map]
    have := attemptsTop_flatMap_le
      (fun it : Name × J => Ev.attempt n (vi+1) (some (MNode.child n it.1 it.2)) none :: stream rest (vi+1) (MNode.child n it.1 it.2))
      (fun it => 1 + exams rest (MNode.child n it.1 it.2)) its
      (fun it _ => by rw [attemptsTop_attempt]; have := ih it.1 it.2 hp.tail; omega)
    simp only [Function.comp_def]
    omega
  | recur rest vi n hc he ih =>
    have := work_recBody rest vi (fun m => ih m hp.tail) n.data n rfl hc
    have e : exams (.recur :: rest) n = 1 + ((recNodes n).map (recW rest)).sum := rfl
    simp only [he, e, recNodes, hc, if_true, attemptsTop_attempt]
    omega
  | recurScalar rest vi n hc he => simp [he, exams, recNodes, hc, attemptsTop_attempt]

end Treepath
