import Treepath.Proofs.MachineLemmas
import Treepath.Proofs.SliceLemmas
import Treepath.Model.Has
/- which exceptions the traverser can raise; the two premises the refinement chain is stated
under: `Quiet` (no step of the path raises) and `PredsClean` (what predicates emit is not
mistaken for the search's own results, `stop` or raise) -/
namespace Treepath
variable {α : Type}

/-- the documented traversal errors: `TraversingError` (wrapping a predicate's exception) and
its subclass `InfiniteLoopDetected` -/
def Exc.documented : Exc → Bool
  | .traversing _ => true
  | .loopDetected => true
  | _ => false

/-- supported steps: every step except a slice whose step is `0` (Python's own lists reject
it with a bare `ValueError`) -/
def Step.supported : Step α → Bool
  | .slice _ _ (some 0) => false
  | _ => true

theorem itemsOf_valueError (s : Step α) (v : View α) (h : itemsOf s v = .valueError) : s.supported = false := by
  unfold itemsOf at h
  split at h
  -- the fifth alternative of `itemsOf`, a slice over a list, is the only one that can come to `valueError`:
  -- when the slice's step is 0
  case h_5 a b c xs =>
    split at h
    · rw [(sliceItems_eq_none a b c xs).mp ‹_›]; rfl
    · cases h
  all_goals cases h

theorem StepRaises.documented {view : α → View α} {s : Step α} {n : MNode α} {e : Exc} {evs : List (Ev α)}
    (h : StepRaises view s n e evs) (hs : s.supported = true) : e.documented = true := by
  cases h with
  | pred => rfl
  | zeroStep hio => rw [itemsOf_valueError s _ hio] at hs; cases hs

theorem StepRaises.not_quiet {view : α → View α} {s : Step α} {n : MNode α} {e : Exc} {evs : List (Ev α)}
    (h : StepRaises view s n e evs) (hs : s.supported = true)
    (hval : ∀ f, s = .filter f → ∃ j, (f n).res = .val j) : False := by
  cases h with
  | pred f x hf hres => obtain ⟨j, hj⟩ := hval f hf; rw [hj] at hres; cases hres
  | zeroStep hio => rw [itemsOf_valueError s _ hio] at hs; cases hs

/-- **only documented errors leave `next()`**: for a path of supported steps, an exception
raised by `next()` is a `TraversingError` (wrapping the predicate's exception) or
`InfiniteLoopDetected` — never a bare `KeyError`, `IndexError`, `TypeError`, `AttributeError`
or `ValueError` -/
theorem next_raised_documented (view : α → View α) (steps : Array (Step α)) (src : Src α)
    (hsup : ∀ s ∈ steps.toList, s.supported = true) (limit : Nat) (st st' : St α) (evs : List (Ev α)) (e : Exc)
    (h : next view steps src limit st = (st', evs, .raised e)) : e.documented = true := by
  rcases next_cases h with hl | ⟨s1, _, _, _, ha, _, _⟩
  · cases hl; rfl
  · cases action_cases ha with
    | raises s _ _ _ hs hsh => exact hsh.documented (hsup s hs)

theorem action_no_raise_quiet {view : α → View α} {steps : Array (Step α)} {src : Src α}
    (hq : ∀ s ∈ steps.toList, s.supported = true ∧ ∀ f, s = .filter f → ∀ n, ∃ j, (f n).res = .val j)
    {st s1 : St α} {e1 : List (Ev α)} {e : Exc} (h : action view steps src st = (s1, e1, .raised e)) : False := by
  cases action_cases h with
  | raises s n _ _ hs hsh =>
    obtain ⟨hsup, hval⟩ := hq s hs
    exact hsh.not_quiet hsup fun f hf => hval f hf n

/-- no step of the list can raise: filters return a value on every node, slices have a
non-zero step -/
def Quiet (ss : List (Step J)) : Prop :=
  ∀ s ∈ ss, s.supported = true ∧ (∀ f, s = .filter f → ∀ n, ∃ j, (f n).res = .val j)

/-- events emitted by predicates are neither results, nor `stop`, nor raises of the outer
search (true of every has-family predicate, which strips them from the nested run) -/
def PredsClean (steps : Array (Step α)) : Prop :=
  ∀ s ∈ steps.toList, ∀ f, s = .filter f → ∀ n, ∀ e ∈ (f n).evs, e.isClean = true

theorem PredEvs.clean {steps : Array (Step α)} (hp : PredsClean steps) {s : Step α} (hs : s ∈ steps.toList)
    {n : MNode α} {pre : List (Ev α)} (h : PredEvs s n pre) : ∀ e ∈ pre, e.isClean = true := by
  rcases h with rfl | ⟨f, rfl, rfl⟩
  · simp
  · intro e he
    rcases List.mem_cons.mp he with rfl | he
    · rfl
    · exact hp _ hs f rfl n e he

theorem StepRaises.shape {view : α → View α} {steps : Array (Step α)} (hp : PredsClean steps) {s : Step α}
    (hs : s ∈ steps.toList) {n : MNode α} {e : Exc} {evs : List (Ev α)} (h : StepRaises view s n e evs) :
    ∃ A, evs = A ++ [.raised e] ∧ ∀ a ∈ A, a.isClean = true := by
  cases h with
  | pred f x hf _ => exact ⟨_, rfl, PredEvs.clean hp hs (.inr ⟨f, hf, rfl⟩)⟩
  | zeroStep => exact ⟨[], rfl, by simp⟩

theorem quiet_of_filterFree (ss : List (Step J)) (h : ∀ s ∈ ss, s.supported = true ∧ ∀ f, s ≠ .filter f) :
    Quiet ss := by
  intro s hs
  exact ⟨(h s hs).1, fun f hf => absurd hf ((h s hs).2 f)⟩

theorem clean_of_filterFree (steps : Array (Step J)) (h : ∀ s ∈ steps.toList, ∀ f, s ≠ .filter f) :
    PredsClean steps := by
  intro s hs f hf
  exact absurd hf (h s hs f)

end Treepath
