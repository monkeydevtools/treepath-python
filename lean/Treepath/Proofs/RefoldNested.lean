import Treepath.Proofs.RefoldApi
/-
Writes through a *nested document* (the object a typed attribute hands out wraps the JSON node
the attribute's path selects, by reference): an assignment / deletion made through an attribute
of the nested document is an update of the original document's tree at the concatenated
location.
-/
namespace Treepath

/-- `vertex.set` looks at the parent match's value only -/
theorem vertexSet_heap_congr (h h' : Heap) (s : Step Val) (pm pm' m : MNode Val) (v : Val) (hd : pm'.data = pm.data)
    (hs : vertexSet h s pm v = .ok (h', m)) : ∃ m', vertexSet h s pm' v = .ok (h', m') := by
  obtain ⟨id, nm, o, hpd, rfl, hw, rfl, _⟩ := vertexSet_ok hs
  exact ⟨_, vertexSet_of_write (hd.trans hpd) hw⟩

/-- **assignment through a nested document, on the original tree**: the nested document wraps
`mo.data` itself, the node `mo` the outer attribute selected; a successful non-cascading `set_` of a
fresh value on it writes the outer document's tree at `mo.loc ++ pm.loc` — the location of the inner
parent path's first match *inside* the node, appended to the node's own location — and nothing else. -/
theorem nested_set_refines (inner : Heap → List (Step Val)) (root : Val) (j jv : J) (n : Nat) (h h' : Heap)
    (v : Val) (mo m : MNode Val) (hi : DocInv h root j) (hmo : Gen (hview h) root mo)
    (hv : UnfJ h jv v) (hvn : (fpJ h jv v).Nodup) (hfresh : ∀ x ∈ fpJ h jv v, x ∉ fpJ h j root)
    (hset : setMatchN inner (.doc mo.data) false (n+1) h v = (h', .ok m)) :
    ∃ pm nm j', getMatch (wcx h) ((inner h).take n).toArray (.doc mo.data) true = .ok (some pm) ∧
      J.setAt j (mo.loc ++ pm.loc) nm jv = some j' ∧ DocInv h' root j' ∧
      ∀ x ∈ fpJ h' j' root, x ∈ fpJ h j root ∨ x ∈ fpJ h jv v := by
  have hw_mo := gen_walk (hview h) root mo hmo
  obtain ⟨pm, nm, j', _, hg, e2, e3, e5⟩ := setMatchN_refines_at inner (.doc mo.data) (mo.loc ++ ·.loc) hi
    (fun pm hg => by
      have hw_pm := gen_walk (hview h) mo.data pm (getMatch_gen (wcx h) (heapwf_keysUniq hi.wf) _ mo.data true pm hg)
      simp [walk_append, hw_mo, hw_pm]) hv hvn hfresh hset
  exact ⟨pm, nm, j', hg, e2, e3, e5⟩

/-- `vertex.pop` looks at the value of the match's parent only -/
theorem vertexPop_congr (h : Heap) (last : Option (Step Val)) (m m' : MNode Val)
    (hd : m'.parent.map MNode.data = m.parent.map MNode.data) : vertexPop h last m' = vertexPop h last m := by
  unfold vertexPop
  rw [hd]

/-- **deletion through a nested document, on the original tree**: `del nested.attr` /
`pop(inner, nested.data)` removes the entry at `mo.loc ++ p.loc` of the outer document's tree -/
theorem nested_pop_refines (inner : Heap → List (Step Val)) (root : Val) (j : J) (h h' : Heap) (mm : Bool)
    (mo m : MNode Val) (hi : DocInv h root j) (hmo : Gen (hview h) root mo)
    (hpop : popMatch inner (.doc mo.data) mm h = (h', .ok (some m))) :
    ∃ p nm j', m.parent = some p ∧ (inner h).getLast? = some (nameStepV nm) ∧
      J.popAt j (mo.loc ++ p.loc) nm = some j' ∧ DocInv h' root j' ∧ ∀ x ∈ fpJ h' j' root, x ∈ fpJ h j root := by
  have hw_mo := gen_walk (hview h) root mo hmo
  exact popMatch_refines_at inner (.doc mo.data) (mo.loc ++ ·.loc) hi
    (fun hg p hp => by
      have hw_p := gen_walk (hview h) mo.data p (gen_parent (hview h) mo.data m p
        (getMatch_gen (wcx h) (heapwf_keysUniq hi.wf) _ mo.data mm m hg) hp)
      simp [walk_append, hw_mo, hw_p]) hpop

end Treepath
