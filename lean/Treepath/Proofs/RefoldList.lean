import Treepath.Proofs.RefoldOps
import Treepath.Proofs.RefoldInv
import Treepath.Proofs.DocListLemmas
/-
The list view (`DocumentList`) on the JSON tree: an operation through the view of a list that
sits at location `loc` of a document (a tree: `DocInv`) is the plain-list operation applied to
the JSON list at `loc`, everything else unchanged.
-/
namespace Treepath

/-- keep the entries at the positions marked `true` -/
def maskFilter {β : Type} : List Bool → List β → List β
  | b :: bs, x :: xs => if b then x :: maskFilter bs xs else maskFilter bs xs
  | _, _ => []

theorem filter_eq_mask {β : Type} (p : β → Bool) : ∀ (xs : List β), xs.filter p = maskFilter (xs.map p) xs
  | [] => rfl
  | x :: xs => by rw [List.filter_cons, List.map_cons, maskFilter, filter_eq_mask p xs]

theorem unfList_mask_sub {h : Heap} : ∀ (m : List Bool) {ys : List J} {xs : List Val}, UnfListJ h ys xs →
    UnfListJ h (maskFilter m ys) (maskFilter m xs) ∧
    (fpList h (maskFilter m ys) (maskFilter m xs)).Sublist (fpList h ys xs)
  | [], _, _ => fun _ => ⟨trivial, List.nil_sublist _⟩
  | _ :: _, [], [] => fun _ => ⟨trivial, List.nil_sublist _⟩
  | b :: bs, _ :: ys, _ :: xs => fun hu => by
    obtain ⟨q1, q2⟩ := unfList_mask_sub bs hu.2
    cases b with
    | true => exact ⟨⟨hu.1, q1⟩, (List.Sublist.refl _).append q2⟩
    | false => exact ⟨q1, q2.trans (List.sublist_append_right ..)⟩
  | _ :: _, [], _ :: _ => fun hu => hu.elim
  | _ :: _, _ :: _, [] => fun hu => hu.elim

theorem unfList_mask {h : Heap} : ∀ (m : List Bool) (ys : List J) (xs : List Val), UnfListJ h ys xs →
    UnfListJ h (maskFilter m ys) (maskFilter m xs) ∧
    (∀ x ∈ fpList h (maskFilter m ys) (maskFilter m xs), x ∈ fpList h ys xs) ∧
    ((fpList h ys xs).Nodup → (fpList h (maskFilter m ys) (maskFilter m xs)).Nodup) :=
  fun m ys xs hu => ⟨(unfList_mask_sub m hu).1, fun _ hx => (unfList_mask_sub m hu).2.subset hx,
    (unfList_mask_sub m hu).2.nodup⟩

/-- **an operation on the view's list object, on the tree**: if the list object `id` sits at `loc`
of a document that is a tree, and `F` maps any JSON list `ys ~ xs` to a JSON list `ys' ~ xs'` (new
items bring at most the objects `E`), the document afterwards unfolds to the old tree with `F`
applied at `loc` — and is again a tree. -/
theorem listobj_refold (h : Heap) (id : Nat) (xs xs' : List Val) (E : List Nat) (F : J → Option J)
    (root : Val) (j : J) (loc : List Name) (hi : DocInv h root j)
    (ho : h[id]? = some (.list xs)) (hw : walk (hview h) root loc = some (.ref id))
    (hE : ∀ x ∈ E, x ∉ fpJ h j root)
    (hstep : ∀ ys, ys.length = xs.length → UnfListJ (hput h id (.list xs')) ys xs →
      ∃ ys', F (.arr ys) = some (.arr ys') ∧ UnfListJ (hput h id (.list xs')) ys' xs' ∧
        (∀ x ∈ fpList (hput h id (.list xs')) ys' xs', x ∈ fpList (hput h id (.list xs')) ys xs ∨ (x ∈ E ∧ x ≠ id)) ∧
        ((fpList (hput h id (.list xs')) ys xs).Nodup → (∀ x ∈ E, x ∉ fpList (hput h id (.list xs')) ys xs) →
          (fpList (hput h id (.list xs')) ys' xs').Nodup)) :
    ∃ j', J.updateAt F j loc = some j' ∧ DocInv (hput h id (.list xs')) root j' := by
  obtain ⟨_, j', g1, g2, g3, _⟩ := refold h id (.list xs') F E (base_list xs' E F ho fun ys hl hu => by
      -- the base case of `refold` does not need the clause `x ≠ id` of `hstep`
      obtain ⟨ys', f1, f3, f4, f5⟩ := hstep ys hl hu
      exact ⟨ys', f1, f3, fun x hx => (f4 x hx).imp_right And.left, f5⟩) loc root j hi.unf hi.sep hE hw
  exact ⟨j', g1, ⟨g2, g3, heapwf_hput hi.wf _ _ (fun es he => by simp at he)⟩⟩

/-- what `view.append(v)` does to a JSON list -/
def jAppend (jv : J) : J → Option J
  | .arr ys => some (.arr (ys ++ [jv]))
  | _ => none

/-- what `del view[i]` / `view.pop(i)` does to a JSON list -/
def jDelIdx (i : Int) : J → Option J
  | .arr ys => (normIndex ys.length i).map fun p => .arr (ys.eraseIdx p)
  | _ => none

/-- what `view[i] = v` does to a JSON list (in range only) -/
def jSetIdx (i : Int) (jv : J) : J → Option J
  | .arr ys => (normIndex ys.length i).map fun p => .arr (ys.set p jv)
  | _ => none

/-- what `keep_all` does to a JSON list, given the answers of the predicate position by position -/
def jKeep (mask : List Bool) : J → Option J
  | .arr ys => some (.arr (maskFilter mask ys))
  | _ => none

theorem lAppend_refines (c : Conv) (h h' : Heap) (id : Nat) (v : Val) (root : Val) (j jv : J) (loc : List Name)
    (hi : DocInv h root j) (hw : walk (hview h) root loc = some (.ref id))
    (hv : UnfJ h jv (c.unwrap v)) (hvn : (fpJ h jv (c.unwrap v)).Nodup)
    (hfresh : ∀ x ∈ fpJ h jv (c.unwrap v), x ∉ fpJ h j root)
    (hop : lAppend c h id v = some h') :
    ∃ j', J.updateAt (jAppend jv) j loc = some j' ∧ DocInv h' root j' := by
  obtain ⟨xs, ho, rfl⟩ := lAppend_ok hop
  have hidv : id ∉ fpJ h jv (c.unwrap v) := fun hm => hfresh id hm (walk_mem_fp hi.unf hw)
  refine listobj_refold h id xs _ (fpJ h jv (c.unwrap v)) (jAppend jv) root j loc hi ho hw hfresh ?_
  intro ys _ q1
  obtain ⟨u1, u2, u3⟩ := cells_append hv hvn hidv q1
  exact ⟨ys ++ [jv], rfl, u1, fun x hx => (u2 x hx).imp_right fun h1 => ⟨h1, fun e => hidv (e ▸ h1)⟩, u3⟩

theorem lDel_refines (h h' : Heap) (id : Nat) (i : Int) (root : Val) (j : J) (loc : List Name)
    (hi : DocInv h root j) (hw : walk (hview h) root loc = some (.ref id)) (hop : lDel h id i = some h') :
    ∃ j', J.updateAt (jDelIdx i) j loc = some j' ∧ DocInv h' root j' := by
  obtain ⟨xs, p, _, ho, hni, _, rfl⟩ := lDel_ok hop
  refine listobj_refold h id xs (xs.eraseIdx p) [] (jDelIdx i) root j loc hi ho hw (by simp) ?_
  intro ys hlen q1
  obtain ⟨u1, u2⟩ := unfList_erase p q1
  exact ⟨ys.eraseIdx p, by simp [jDelIdx, hlen, hni], u1, fun x hx => .inl (u2.subset hx), fun n1 _ => u2.nodup n1⟩

theorem lKeepAll_refines (c : Conv) (hc : ∀ x, c.unwrap (c.wrap x) = x) (keep : Val → Bool) (h h' : Heap) (id : Nat)
    (xs : List Val) (root : Val) (j : J) (loc : List Name)
    (hi : DocInv h root j) (hw : walk (hview h) root loc = some (.ref id)) (ho : h[id]? = some (.list xs))
    (hop : lKeepAll c keep h id = some h') :
    ∃ j', J.updateAt (jKeep (xs.map fun x => keep (c.wrap x))) j loc = some j' ∧ DocInv h' root j' := by
  obtain ⟨xs', ho', rfl⟩ := lKeepAll_ok hop
  obtain rfl : xs = xs' := by rw [ho'] at ho; cases ho; rfl
  rw [keepAllList_eq, filterMap_keepFn, List.map_congr_left (fun x _ => hc x), List.map_id', filter_eq_mask]
  refine listobj_refold h id xs _ [] (jKeep (xs.map fun x => keep (c.wrap x))) root j loc hi ho hw (by simp) ?_
  intro ys _ q1
  obtain ⟨u1, u2, u3⟩ := unfList_mask (xs.map fun x => keep (c.wrap x)) ys xs q1
  exact ⟨_, rfl, u1, fun x hx => .inl (u2 x hx), fun n1 _ => u3 n1⟩

theorem lSet_refines (c : Conv) (h h' : Heap) (id : Nat) (i : Int) (v : Val) (root : Val) (j jv : J) (loc : List Name)
    (hi : DocInv h root j) (hw : walk (hview h) root loc = some (.ref id))
    (hv : UnfJ h jv (c.unwrap v)) (hvn : (fpJ h jv (c.unwrap v)).Nodup)
    (hfresh : ∀ x ∈ fpJ h jv (c.unwrap v), x ∉ fpJ h j root)
    (hop : lSet c h id i v = some h') :
    ∃ j', J.updateAt (jSetIdx i jv) j loc = some j' ∧ DocInv h' root j' := by
  obtain ⟨xs, p, ho, hni, rfl⟩ := lSet_ok hop
  have hidv : id ∉ fpJ h jv (c.unwrap v) := fun hm => hfresh id hm (walk_mem_fp hi.unf hw)
  refine listobj_refold h id xs _ (fpJ h jv (c.unwrap v)) (jSetIdx i jv) root j loc hi ho hw hfresh ?_
  intro ys hlen q1
  obtain ⟨u1, u2, u3⟩ := cells_set hv hvn hidv p q1
  exact ⟨ys.set p jv, by simp [jSetIdx, hlen, hni], u1,
    fun x hx => (u2 x hx).imp_right fun h1 => ⟨h1, fun e => hidv (e ▸ h1)⟩, u3⟩

theorem lPop_refines (c : Conv) (h h' : Heap) (id : Nat) (i : Int) (r : Val) (root : Val) (j : J) (loc : List Name)
    (hi : DocInv h root j) (hw : walk (hview h) root loc = some (.ref id)) (hop : lPop c h id i = some (h', r)) :
    lDel h id i = some h' ∧ lGet c h id i = some r ∧
      ∃ j', J.updateAt (jDelIdx i) j loc = some j' ∧ DocInv h' root j' := by
  obtain ⟨xs, p, x, ho, hp, hx, rfl, hd⟩ := lPop_ok hop
  exact ⟨hd, by simp [lGet, listOf_some.mpr ho, hp, hx], lDel_refines h h' id i root j loc hi hw hd⟩

/-- **`remove_all(is_remove)`** = `keep_all(not ∘ is_remove)`, on the tree -/
theorem lRemoveAll_refines (c : Conv) (hc : ∀ x, c.unwrap (c.wrap x) = x) (rm : Val → Bool) (h h' : Heap) (id : Nat)
    (xs : List Val) (root : Val) (j : J) (loc : List Name)
    (hi : DocInv h root j) (hw : walk (hview h) root loc = some (.ref id)) (ho : h[id]? = some (.list xs))
    (hop : lRemoveAll c rm h id = some h') :
    ∃ j', J.updateAt (jKeep (xs.map fun x => !rm (c.wrap x))) j loc = some j' ∧ DocInv h' root j' :=
  lKeepAll_refines c hc (fun x => !rm x) h h' id xs root j loc hi hw ho hop

end Treepath
