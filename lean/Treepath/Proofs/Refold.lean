import Treepath.Proofs.Unfold
import Treepath.Proofs.TreeWriteLemmas
/-
The object store of the writers refines the JSON tree: on a store without aliasing (every
container object reachable along one path only — what loading a JSON document gives, and what
assigning fresh values keeps), writing one object changes the tree the document unfolds to at
exactly one location, namely the location of that object.
-/
namespace Treepath

/-- no aliasing below `v`: every object is met once -/
def Sep (h : Heap) (j : J) (v : Val) : Prop := (fpJ h j v).Nodup

theorem fpKvs_eq (h : Heap) : ∀ (kvs : List (String × J)) (es : List (String × Val)),
    fpKvs h kvs es = fpList h (kvs.map Prod.snd) (es.map Prod.snd)
  | [], _ => rfl
  | _ :: _, [] => rfl
  | (_, j) :: kvs, (_, v) :: es => congrArg (fpJ h j v ++ ·) (fpKvs_eq h kvs es)

theorem unfKvs_iff {h : Heap} : ∀ {kvs : List (String × J)} {es : List (String × Val)},
    UnfKvsJ h kvs es ↔ (es.map Prod.fst = kvs.map Prod.fst ∧ UnfListJ h (kvs.map Prod.snd) (es.map Prod.snd))
  | [], [] => by simp [UnfKvsJ, UnfListJ]
  | [], _ :: _ => by simp [UnfKvsJ]
  | _ :: _, [] => by simp [UnfKvsJ]
  | (k, j) :: kvs, (k', v) :: es => by
    simp only [UnfKvsJ, UnfListJ, List.map_cons, List.cons.injEq, unfKvs_iff (kvs := kvs) (es := es)]
    constructor
    · rintro ⟨h1, h2, h3, h4⟩; exact ⟨⟨h1, h3⟩, h2, h4⟩
    · rintro ⟨⟨h1, h3⟩, h2, h4⟩; exact ⟨h1, h2, h3, h4⟩

theorem unf_frame_gen (h h' : Heap) (id : Nat) (hag : ∀ x, x ≠ id → h'[x]? = h[x]?) : ∀ (j : J) (v : Val),
    UnfJ h j v → id ∉ fpJ h j v → UnfJ h' j v ∧ fpJ h' j v = fpJ h j v :=
  fun j v hu hn => unf_congr h' hu fun x hx o ho => by rw [hag x fun e => hn (e ▸ hx)]; exact ho

theorem unfList_frame_gen (h h' : Heap) (id : Nat) (hag : ∀ x, x ≠ id → h'[x]? = h[x]?) :
    ∀ (ys : List J) (xs : List Val), UnfListJ h ys xs → id ∉ fpList h ys xs →
    UnfListJ h' ys xs ∧ fpList h' ys xs = fpList h ys xs :=
  fun ys xs hu hn => unfList_congr h' hu fun x hx o ho => by rw [hag x fun e => hn (e ▸ hx)]; exact ho

theorem unf_frame (h : Heap) (id : Nat) (o : Obj) : ∀ (j : J) (v : Val), UnfJ h j v → id ∉ fpJ h j v →
    UnfJ (hput h id o) j v ∧ fpJ (hput h id o) j v = fpJ h j v :=
  unf_frame_gen h _ id fun x hx => hput_other hx

theorem unfList_frame (h : Heap) (id : Nat) (o : Obj) : ∀ (ys : List J) (xs : List Val),
    UnfListJ h ys xs → id ∉ fpList h ys xs →
    UnfListJ (hput h id o) ys xs ∧ fpList (hput h id o) ys xs = fpList h ys xs :=
  unfList_frame_gen h _ id fun x hx => hput_other hx

/-- `h'` agrees with `h` on everything that does not unfold through object `id` -/
def Frames (h h' : Heap) (id : Nat) : Prop :=
  ∀ j v, UnfJ h j v → id ∉ fpJ h j v → UnfJ h' j v ∧ fpJ h' j v = fpJ h j v

theorem frames_list {h h' : Heap} {id : Nat} (hf : Frames h h' id) : ∀ {ys : List J} {xs : List Val},
    UnfListJ h ys xs → id ∉ fpList h ys xs → UnfListJ h' ys xs ∧ fpList h' ys xs = fpList h ys xs
  | [], [] => fun _ _ => ⟨trivial, rfl⟩
  | j :: ys, v :: xs => fun hu hn =>
    have q := hf j v hu.1 fun hm => hn (List.mem_append_left _ hm)
    have r := frames_list hf hu.2 fun hm => hn (List.mem_append_right _ hm)
    ⟨⟨q.1, r.1⟩, by rw [fpList_cons, fpList_cons, q.2, r.2]⟩
  | [], _ :: _ => fun hu _ => hu.elim
  | _ :: _, [] => fun hu _ => hu.elim

theorem unfList_length {h : Heap} : ∀ {ys : List J} {xs : List Val}, UnfListJ h ys xs → ys.length = xs.length
  | [], [] => fun _ => rfl
  | _ :: _, _ :: _ => fun hu => congrArg (· + 1) (unfList_length hu.2)
  | [], _ :: _ => fun hu => hu.elim
  | _ :: _, [] => fun hu => hu.elim

theorem unfList_get {h : Heap} : ∀ {ys : List J} {xs : List Val} {p : Nat} {c : Val}, UnfListJ h ys xs → xs[p]? = some c →
    ∃ jc, ys[p]? = some jc ∧ UnfJ h jc c ∧ (fpJ h jc c).Sublist (fpList h ys xs)
  | j :: _, _ :: _, 0, _ => fun hu hp => by
    cases hp
    exact ⟨j, rfl, hu.1, List.sublist_append_left ..⟩
  | _ :: _, _ :: _, _+1, _ => fun hu hp => by
    obtain ⟨jc, h1, h2, h3⟩ := unfList_get hu.2 (List.getElem?_cons_succ.symm.trans hp)
    exact ⟨jc, List.getElem?_cons_succ.trans h1, h2, h3.trans (List.sublist_append_right ..)⟩
  | [], [], _, _ => fun _ hp => nomatch hp
  | [], _ :: _, _, _ => fun hu _ => hu.elim
  | _ :: _, [], _, _ => fun hu _ => hu.elim

/-- in a duplicate-free footprint the tail `a` is replaced by `a'`, which brings in at most objects of `E` -/
theorem nodup_splice_tail {pre a a' E : List Nat} (hn : (pre ++ a).Nodup) (hE : ∀ x ∈ E, x ∉ pre ++ a)
    (ha : a'.Nodup) (hsub : ∀ x ∈ a', x ∈ a ∨ x ∈ E) :
    (pre ++ a').Nodup ∧ ∀ x ∈ pre ++ a', x ∈ pre ++ a ∨ x ∈ E := by
  obtain ⟨np, _, d⟩ := List.nodup_append.mp hn
  refine ⟨List.nodup_append.mpr ⟨np, ha, fun x hx y hy e => ?_⟩, fun x hx => ?_⟩
  · rcases hsub y hy with h1 | h1
    · exact d x hx y h1 e
    · exact hE y h1 (List.mem_append_left _ (e ▸ hx))
  · rcases List.mem_append.mp hx with hx | hx
    · exact .inl (List.mem_append_left _ hx)
    · exact (hsub x hx).elim (fun h1 => .inl (List.mem_append_right _ h1)) .inr

theorem nodup_splice_head {a a' post E : List Nat} (hn : (a ++ post).Nodup) (hE : ∀ x ∈ E, x ∉ a ++ post)
    (ha : a'.Nodup) (hsub : ∀ x ∈ a', x ∈ a ∨ x ∈ E) :
    (a' ++ post).Nodup ∧ ∀ x ∈ a' ++ post, x ∈ a ++ post ∨ x ∈ E := by
  have comm : ∀ {l₁ l₂ : List Nat} {x}, x ∈ l₁ ++ l₂ → x ∈ l₂ ++ l₁ := fun hx => List.perm_append_comm.subset hx
  obtain ⟨h1, h2⟩ := nodup_splice_tail (List.perm_append_comm.nodup_iff.mp hn) (fun x hx hm => hE x hx (comm hm)) ha hsub
  exact ⟨List.perm_append_comm.nodup_iff.mp h1, fun x hx => (h2 x (comm hx)).imp comm id⟩

/-- **an update inside one entry**: the other entries are untouched.  `hchild` is the conclusion
of `refold` one level down, for the cell `c` at position `p`. -/
theorem refold_list (h h' : Heap) (id : Nat) (E : List Nat) (hf : Frames h h' id) (G : J → Option J) (c : Val)
    (hchild : ∀ jc, UnfJ h jc c → (fpJ h jc c).Nodup → (∀ x ∈ E, x ∉ fpJ h jc c) →
      id ∈ fpJ h jc c ∧ ∃ jc', G jc = some jc' ∧ UnfJ h' jc' c ∧ (fpJ h' jc' c).Nodup ∧
        ∀ x ∈ fpJ h' jc' c, x ∈ fpJ h jc c ∨ x ∈ E) :
    ∀ (ys : List J) (xs : List Val) (p : Nat), UnfListJ h ys xs → (fpList h ys xs).Nodup →
      (∀ x ∈ E, x ∉ fpList h ys xs) → xs[p]? = some c →
      id ∈ fpList h ys xs ∧ ∃ jc jc', ys[p]? = some jc ∧ G jc = some jc' ∧ UnfListJ h' (ys.set p jc') xs ∧
        (fpList h' (ys.set p jc') xs).Nodup ∧ ∀ x ∈ fpList h' (ys.set p jc') xs, x ∈ fpList h ys xs ∨ x ∈ E
  | j :: ys, v :: xs, 0 => fun hu hnd hE hp => by
    cases hp
    rw [fpList_cons] at hnd hE ⊢
    obtain ⟨n1, _, n3⟩ := List.nodup_append.mp hnd
    obtain ⟨hid, jc', g1, g2, g3, g4⟩ := hchild j hu.1 n1 (fun x hx hm => hE x hx (List.mem_append_left _ hm))
    obtain ⟨q1, q2⟩ := frames_list hf hu.2 (fun hm => n3 id hid id hm rfl)
    refine ⟨List.mem_append_left _ hid, j, jc', rfl, g1, ⟨g2, q1⟩, ?_⟩
    rw [List.set_cons_zero, fpList_cons, q2]
    exact nodup_splice_head hnd hE g3 g4
  | j :: ys, v :: xs, p+1 => fun hu hnd hE hp => by
    rw [fpList_cons] at hnd hE ⊢
    obtain ⟨_, n2, n3⟩ := List.nodup_append.mp hnd
    obtain ⟨hid, jc, jc', g0, g1, g2, g3, g4⟩ :=
      refold_list h h' id E hf G c hchild ys xs p hu.2 n2 (fun x hx hm => hE x hx (List.mem_append_right _ hm))
        (List.getElem?_cons_succ.symm.trans hp)
    obtain ⟨q1, q2⟩ := hf j v hu.1 (fun hm => n3 id hm id hid rfl)
    refine ⟨List.mem_append_right _ hid, jc, jc', List.getElem?_cons_succ.trans g0, g1, ⟨q1, g2⟩, ?_⟩
    rw [List.set_cons_succ, fpList_cons, q2]
    exact nodup_splice_tail hnd hE g3 g4
  | [], [], _ => fun _ _ _ hp => nomatch hp
  | [], _ :: _, _ => fun hu _ _ _ => hu.elim
  | _ :: _, [], _ => fun hu _ _ _ => hu.elim

theorem unfList_set {h : Heap} {jv : J} {v : Val} (hv : UnfJ h jv v) : ∀ {ys : List J} {xs : List Val} (p : Nat),
    UnfListJ h ys xs → UnfListJ h (ys.set p jv) (xs.set p v) ∧
      (∀ x ∈ fpList h (ys.set p jv) (xs.set p v), x ∈ fpList h ys xs ∨ x ∈ fpJ h jv v) ∧
      ((fpList h ys xs).Nodup → (fpJ h jv v).Nodup → (∀ x ∈ fpJ h jv v, x ∉ fpList h ys xs) →
        (fpList h (ys.set p jv) (xs.set p v)).Nodup)
  | [], [], _ => fun _ => by simp [UnfListJ, fpList]
  | j :: ys, w :: xs, 0 => fun hu => by
    refine ⟨⟨hv, hu.2⟩, fun x hx => ?_, fun hn hnv hd => ?_⟩
    · rw [List.set_cons_zero, List.set_cons_zero, fpList_cons] at hx
      exact (List.mem_append.mp hx).elim .inr fun h1 => .inl (List.mem_append_right _ h1)
    · rw [List.set_cons_zero, List.set_cons_zero, fpList_cons]
      exact List.nodup_append.mpr ⟨hnv, (List.nodup_append.mp hn).2.1,
        fun a ha b hb e => hd a ha (e ▸ List.mem_append_right _ hb)⟩
  | j :: ys, w :: xs, p+1 => fun hu => by
    obtain ⟨q1, q2, q3⟩ := unfList_set hv p hu.2
    refine ⟨⟨hu.1, q1⟩, fun x hx => ?_, fun hn hnv hd => ?_⟩
    · rw [List.set_cons_succ, List.set_cons_succ, fpList_cons] at hx
      rcases List.mem_append.mp hx with h1 | h1
      · exact .inl (List.mem_append_left _ h1)
      · exact (q2 x h1).imp_left (List.mem_append_right _)
    · rw [fpList_cons] at hn
      obtain ⟨n1, n2, n3⟩ := List.nodup_append.mp hn
      rw [List.set_cons_succ, List.set_cons_succ, fpList_cons]
      refine List.nodup_append.mpr ⟨n1, q3 n2 hnv fun x hx hm => hd x hx (List.mem_append_right _ hm), fun a ha b hb e => ?_⟩
      rcases q2 b hb with h2 | h2
      · exact n3 a ha b h2 e
      · exact hd b h2 (e ▸ List.mem_append_left _ ha)
  | [], _ :: _, _ => fun hu => hu.elim
  | _ :: _, [], _ => fun hu => hu.elim

theorem unfList_append {h : Heap} {jv : J} {v : Val} (hv : UnfJ h jv v) : ∀ {ys : List J} {xs : List Val},
    UnfListJ h ys xs → UnfListJ h (ys ++ [jv]) (xs ++ [v]) ∧
      fpList h (ys ++ [jv]) (xs ++ [v]) = fpList h ys xs ++ fpJ h jv v
  | [], [] => fun _ => ⟨⟨hv, trivial⟩, List.append_nil _⟩
  | j :: ys, w :: xs => fun hu =>
    have q := unfList_append hv hu.2
    ⟨⟨hu.1, q.1⟩, by rw [List.cons_append, List.cons_append, fpList_cons, fpList_cons, q.2, List.append_assoc]⟩
  | [], _ :: _ => fun hu => hu.elim
  | _ :: _, [] => fun hu => hu.elim

theorem unfList_erase {h : Heap} : ∀ {ys : List J} {xs : List Val} (p : Nat),
    UnfListJ h ys xs → UnfListJ h (ys.eraseIdx p) (xs.eraseIdx p) ∧
      (fpList h (ys.eraseIdx p) (xs.eraseIdx p)).Sublist (fpList h ys xs)
  | [], [], _ => fun _ => ⟨trivial, .slnil⟩
  | _ :: _, _ :: _, 0 => fun hu => ⟨hu.2, List.sublist_append_right ..⟩
  | _ :: ys, _ :: xs, p+1 => fun hu =>
    have q := unfList_erase p hu.2
    ⟨⟨hu.1, q.1⟩, (List.Sublist.refl _).append q.2⟩
  | [], _ :: _, _ => fun hu => hu.elim
  | _ :: _, [], _ => fun hu => hu.elim

theorem mem_fp_self {h : Heap} {j : J} {id : Nat} (hu : UnfJ h j (.ref id)) : id ∈ fpJ h j (.ref id) := by
  rcases unf_ref_cases hu with ⟨_, _, rfl, _, _⟩ | ⟨_, _, rfl, _, _⟩
  · exact List.mem_cons_self ..
  · exact List.mem_cons_self ..

/-- a container is a row of cells: the child under a name sits at one position of the row, in
the store and in the tree, and replacing the sub-tree at that position is `putChild` -/
theorem unf_cells {h : Heap} {j : J} {root c : Val} {nm : Name} (hu : UnfJ h j root)
    (hc : childAt (hview h root) nm = some c) :
    ∃ (rid : Nat) (js : List J) (cs : List Val) (p : Nat) (jc : J), root = .ref rid ∧
      UnfListJ h js cs ∧ fpJ h j root = rid :: fpList h js cs ∧ cs[p]? = some c ∧ js[p]? = some jc ∧
      childAt (J.view j) nm = some jc ∧
      ∀ (h' : Heap) (jc' : J), h'[rid]? = h[rid]? → UnfListJ h' (js.set p jc') cs →
        ∃ j', j.putChild nm jc' = some j' ∧ UnfJ h' j' root ∧ fpJ h' j' root = rid :: fpList h' (js.set p jc') cs := by
  cases root with
  | atom a => cases nm <;> simp [childAt, hview] at hc
  | ref rid =>
    rcases unf_ref_cases hu with ⟨kvs, es, rfl, ho, hkv⟩ | ⟨ys, xs, rfl, ho, hul⟩
    · obtain ⟨hkeys, hul⟩ := unfKvs_iff.mp hkv
      rw [childAt_hview ho] at hc
      cases nm with
      | idx i => cases hc
      | key k =>
        obtain ⟨p, jc, hesp, hlk, hkvp, hset, _⟩ := kvs_pos kvs es k c hkeys hc
        refine ⟨rid, _, _, p, jc, rfl, hul, by rw [fpJ_obj ho, fpKvs_eq], hesp, hkvp, by simp [childAt, J.view, hlk],
          fun h' jc' hr hu' => ⟨.obj (kvsSet kvs k jc'), by simp [J.putChild, hlk], ?_, ?_⟩⟩
        · exact ⟨es, hr.trans ho, unfKvs_iff.mpr ⟨by rw [(hset jc').2]; exact hkeys, by rw [(hset jc').1]; exact hu'⟩⟩
        · rw [fpJ_obj (hr.trans ho), fpKvs_eq, (hset jc').1]
    · rw [childAt_hview ho] at hc
      cases nm with
      | key k => cases hc
      | idx i =>
        simp only [Obj.get?] at hc
        cases hni : normIndex xs.length i with
        | none => simp [hni] at hc
        | some p =>
          simp only [hni, Option.bind_some] at hc
          have hlen := unfList_length hul
          obtain ⟨jc, g1, _⟩ := unfList_get hul hc
          refine ⟨rid, ys, xs, p, jc, rfl, hul, fpJ_arr ho _, hc, g1,
            by simp [childAt, J.view, getPy?_eq_norm, hlen, hni, g1],
            fun h' jc' hr hu' => ⟨.arr (ys.set p jc'), by simp [J.putChild, hlen, hni], ?_, ?_⟩⟩
          · exact ⟨xs, hr.trans ho, hu'⟩
          · exact fpJ_arr (hr.trans ho) _

/-- one step of a walk, on both sides -/
theorem unf_child {h : Heap} {j : J} {root c : Val} {nm : Name} (hu : UnfJ h j root)
    (hc : childAt (hview h root) nm = some c) :
    ∃ rid jc, root = .ref rid ∧ childAt (J.view j) nm = some jc ∧ UnfJ h jc c ∧
      (rid :: fpJ h jc c).Sublist (fpJ h j root) := by
  obtain ⟨rid, js, cs, p, jc, hr, hul, hfp, hp, hjp, hcj, _⟩ := unf_cells hu hc
  obtain ⟨jc', g1, g2, g3⟩ := unfList_get hul hp
  obtain rfl : jc = jc' := Option.some.inj (hjp.symm.trans g1)
  exact ⟨rid, jc, hr, hcj, g2, hfp ▸ g3.cons_cons _⟩

theorem walk_mem_fp {h : Heap} {id : Nat} : ∀ {loc : List Name} {root : Val} {j : J}, UnfJ h j root →
    walk (hview h) root loc = some (.ref id) → id ∈ fpJ h j root
  | [], _, _ => fun hu hw => by
    cases hw
    exact mem_fp_self hu
  | nm :: l, _, _ => fun hu hw => by
    obtain ⟨c, hc, hw'⟩ := walk_cons_some hw
    obtain ⟨_, jc, _, _, huc, hsub⟩ := unf_child hu hc
    exact hsub.subset (List.mem_cons_of_mem _ (walk_mem_fp huc hw'))

/-- a walk that ends at object `id` only passes through other objects: it is the same walk in
any store that differs from `h` at `id` only -/
theorem walk_frame (h h' : Heap) (id : Nat) (hag : ∀ x, x ≠ id → h'[x]? = h[x]?) :
    ∀ (loc : List Name) (root : Val) (j : J), UnfJ h j root → (fpJ h j root).Nodup →
      walk (hview h) root loc = some (.ref id) → walk (hview h') root loc = some (.ref id)
  | [] => fun _ _ _ _ hw => by simpa [walk] using hw
  | nm :: l => fun root j hu hnd hw => by
    obtain ⟨c, hc, hw'⟩ := walk_cons_some hw
    obtain ⟨rid, jc, rfl, _, huc, hsub⟩ := unf_child hu hc
    obtain ⟨hrid, hnc⟩ := List.nodup_cons.mp (hsub.nodup hnd)
    -- the walk goes on below `rid`, which is met once: the object it ends at is another one
    have hne : rid ≠ id := fun e => hrid (e ▸ walk_mem_fp huc hw')
    have hv : hview h' (.ref rid) = hview h (.ref rid) := by simp [hview, hag rid hne]
    simp only [walk, hv, hc]
    exact walk_frame h h' id hag l c jc huc hnc hw'

/-- Let `h' = hput h id o`.  If, for the sub-tree `jsub` the object `id` unfolds to, `F jsub`
is what it unfolds to in `h'` (`hbase`), then for every document root that reaches `id` by
walking `loc`, without aliasing: in `h'` the root unfolds to the old tree *updated by `F` at
`loc`* — every other part of the document is what it was.  `E` bounds the objects the new
sub-tree may bring in (the footprint of an assigned value). -/
theorem refold (h : Heap) (id : Nat) (o : Obj) (F : J → Option J) (E : List Nat)
    (hbase : ∀ jsub, UnfJ h jsub (.ref id) → (fpJ h jsub (.ref id)).Nodup → (∀ x ∈ E, x ∉ fpJ h jsub (.ref id)) →
      ∃ jsub', F jsub = some jsub' ∧ UnfJ (hput h id o) jsub' (.ref id) ∧ (fpJ (hput h id o) jsub' (.ref id)).Nodup ∧
        ∀ x ∈ fpJ (hput h id o) jsub' (.ref id), x ∈ fpJ h jsub (.ref id) ∨ x ∈ E) :
    ∀ (loc : List Name) (root : Val) (j : J), UnfJ h j root → (fpJ h j root).Nodup → (∀ x ∈ E, x ∉ fpJ h j root) →
      walk (hview h) root loc = some (.ref id) →
      id ∈ fpJ h j root ∧ ∃ j', J.updateAt F j loc = some j' ∧ UnfJ (hput h id o) j' root ∧
        (fpJ (hput h id o) j' root).Nodup ∧ ∀ x ∈ fpJ (hput h id o) j' root, x ∈ fpJ h j root ∨ x ∈ E
  | [] => fun root j hu hnd hE hw => by
    cases hw
    exact ⟨mem_fp_self hu, hbase j hu hnd hE⟩
  | nm :: l => fun root j hu hnd hE hw => by
    obtain ⟨c, hc, hw'⟩ := walk_cons_some hw
    obtain ⟨rid, js, cs, p, jc, rfl, hul, hfp, hp, hjp, hcj, hplug⟩ := unf_cells hu hc
    rw [hfp] at hnd hE ⊢
    obtain ⟨hrid, hndl⟩ := List.nodup_cons.mp hnd
    -- the update happens inside the cell at `p`; the other cells do not unfold through `id`
    obtain ⟨hid, jc0, jc', g0, g1, g2, g3, g4⟩ :=
      refold_list h (hput h id o) id E (unf_frame h id o) (fun jc => J.updateAt F jc l) c
        (fun jc q1 q2 q3 => refold h id o F E hbase l c jc q1 q2 q3 hw')
        js cs p hul hndl (fun x hx hm => hE x hx (List.mem_cons_of_mem _ hm)) hp
    obtain rfl : jc = jc0 := Option.some.inj (hjp.symm.trans g0)
    obtain ⟨j', e1, e2, e3⟩ := hplug (hput h id o) jc' (hput_other fun e => hrid (e ▸ hid)) g2
    refine ⟨List.mem_cons_of_mem _ hid, j', by simp [updateAt_cons, hcj, g1, e1], e2, ?_⟩
    rw [e3]
    exact nodup_splice_tail (pre := [rid]) hnd hE g3 g4

end Treepath
