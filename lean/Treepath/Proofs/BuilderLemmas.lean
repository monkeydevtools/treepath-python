import Treepath.Model.Builder
import Treepath.Proofs.ArrayLemmas
/- the cache invariant of the vertex store -/
namespace Treepath

/-- two stores that agree on every vertex's parent and kind (they may differ in caches) -/
def SameShape (st st' : VStore) : Prop :=
  ∀ v : Nat, (st'[v]?).map (fun n => (n.parent, n.kind)) = (st[v]?).map (fun n => (n.parent, n.kind))

theorem SameShape.lt {st st' : VStore} (h : SameShape st st') {v : Nat} (hv : v < st.size) : v < st'.size := by
  have := h v
  rw [Array.getElem?_eq_getElem hv] at this
  cases hx : st'[v]? with
  | none => rw [hx] at this; cases this
  | some n => exact lt_size_of_get hx

theorem kindOfV_congr {st st' : VStore} {v : Nat}
    (h : (st'[v]?).map (fun n => (n.parent, n.kind)) = (st[v]?).map (fun n => (n.parent, n.kind))) :
    kindOfV st' v = kindOfV st v := by
  have := congrArg (Option.map Prod.snd) h
  simp only [Option.map_map] at this
  exact congrArg (Option.getD · .root) this

section congr
/- `S`: a set of vertices closed under `parent` on which the two stores have the same shape -/
variable {st st' : VStore} (S : Nat → Prop)
  (hag : ∀ u, S u → (st'[u]?).map (fun n => (n.parent, n.kind)) = (st[u]?).map (fun n => (n.parent, n.kind)))
  (hcl : ∀ u n p, S u → st[u]? = some n → n.parent = some p → S p)
include hcl

omit st' in
theorem chainOf_mem (fuel v : Nat) (hv : S v) : ∀ u ∈ chainOf st fuel v, S u := by
  -- 1 no fuel; 2 no such vertex; 3 a vertex without parent; 4 a vertex with parent `p`
  fun_induction chainOf st fuel v with
  | case1 => nofun
  | case2 => nofun
  | case3 => intro u hu; rw [List.mem_singleton.mp hu]; exact hv
  | case4 fuel v n h1 p hp ih =>
    intro u hu
    rcases List.mem_append.mp hu with hu | hu
    · exact ih (hcl v n p hv h1 hp) u hu
    · rw [List.mem_singleton.mp hu]; exact hv

include hag

theorem chainOf_congr (fuel v : Nat) (hv : S v) : chainOf st' fuel v = chainOf st fuel v := by
  induction fuel generalizing v with
  | zero => rfl
  | succ fuel ih =>
    have h := hag v hv
    simp only [chainOf]
    cases h1 : st[v]? with
    | none => rw [h1, Option.map_none, Option.map_eq_none_iff] at h; rw [h]
    | some n =>
      rw [h1, Option.map_some, Option.map_eq_some_iff] at h
      obtain ⟨n', h2, he⟩ := h
      rw [h2]
      simp only [(Prod.mk.inj he).1]
      cases hp : n.parent with
      | none => rfl
      | some p => simp only [ih p (hcl v n p hv h1 hp)]

theorem renderPure_congr (v : Nat) (hv : S v) : renderPure st' v = renderPure st v := by
  have hc : chain st' v = chain st v := chainOf_congr S hag hcl _ v hv
  simp only [renderPure, hc, kindOfV_congr (hag v hv)]
  congr 2
  exact List.map_congr_left fun u hu => by rw [kindOfV_congr (hag u (chainOf_mem S hcl _ v hv u hu))]

end congr

theorem chain_sameShape {st st' : VStore} (h : SameShape st st') (v : Nat) : chain st' v = chain st v :=
  chainOf_congr (fun _ => True) (fun u _ => h u) (fun _ _ _ _ _ _ => trivial) _ v trivial

theorem renderPure_sameShape {st st' : VStore} (h : SameShape st st') (v : Nat) : renderPure st' v = renderPure st v :=
  renderPure_congr (fun _ => True) (fun u _ => h u) (fun _ _ _ _ _ _ => trivial) v trivial

theorem sameShape_modify_cache (st : VStore) (v : Nat) (f : VNode → VNode)
    (hf : ∀ n, (f n).parent = n.parent ∧ (f n).kind = n.kind) : SameShape st (st.modify v f) := by
  intro u
  rw [Array.getElem?_modify]
  split
  · rename_i hu
    subst hu
    cases st[v]? with
    | none => rfl
    | some n => simp [(hf n).1, (hf n).2]
  · rfl

/-- well-formed store: parents are older vertices, and every cache that is set holds the value
computed from the vertex's own parent chain -/
structure WF (st : VStore) : Prop where
  parentLt : ∀ (v : Nat) (n : VNode), st[v]? = some n → ∀ p, n.parent = some p → p < v
  listOk : ∀ (v : Nat) (n : VNode) (l : List Nat), st[v]? = some n → n.listCache = some l → l = chain st v
  pathOk : ∀ (v : Nat) (n : VNode) (s : String), st[v]? = some n → n.pathCache = some s → s = renderPure st v

theorem wf_empty : WF #[] := ⟨by simp, by simp, by simp⟩

section push
variable (st : VStore) (hw : WF st) (nn : VNode)

include hw

theorem parent_lt_size (u : Nat) (n : VNode) (p : Nat) (hu : u < st.size) (h1 : st[u]? = some n)
    (hp : n.parent = some p) : p < st.size :=
  Nat.lt_trans (hw.parentLt u n h1 p hp) hu

theorem chain_push (v : Nat) (hv : v < st.size) : chain (st.push nn) v = chain st v :=
  chainOf_congr (· < st.size) (fun u hu => by rw [push_old st nn u hu]) (parent_lt_size st hw) _ v hv

theorem renderPure_push (v : Nat) (hv : v < st.size) : renderPure (st.push nn) v = renderPure st v :=
  renderPure_congr (· < st.size) (fun u hu => by rw [push_old st nn u hu]) (parent_lt_size st hw) v hv

theorem push_wf (hp : ∀ p, nn.parent = some p → p < st.size)
    (hc1 : nn.listCache = none) (hc2 : nn.pathCache = none) :
    WF (st.push nn) ∧ (∀ v : Nat, v < st.size → (st.push nn)[v]? = st[v]?) := by
  refine ⟨⟨?_, ?_, ?_⟩, push_old st nn⟩
  · intro v n hn p hpp
    rcases getElem?_push_some hn with ⟨_, hn⟩ | ⟨rfl, rfl⟩
    · exact hw.parentLt v n hn p hpp
    · exact hp p hpp
  · intro v n l hn hl
    rcases getElem?_push_some hn with ⟨hv, hn⟩ | ⟨rfl, rfl⟩
    · rw [hw.listOk v n l hn hl, chain_push st hw nn v hv]
    · rw [hc1] at hl; cases hl
  · intro v n s hn hs
    rcases getElem?_push_some hn with ⟨hv, hn⟩ | ⟨rfl, rfl⟩
    · rw [hw.pathOk v n s hn hs, renderPure_push st hw nn v hv]
    · rw [hc2] at hs; cases hs

end push

theorem extend_wf (st : VStore) (hw : WF st) (e : Expr) (k : VKind) (he : e.v < st.size) :
    WF (extend st e k).1 ∧ (∀ v : Nat, v < st.size → (extend st e k).1[v]? = st[v]?) ∧
    (extend st e k).2.v = st.size ∧ (extend st e k).1.size = st.size + 1 := by
  obtain ⟨h1, h2⟩ := push_wf st hw { parent := some e.v, kind := k }
    (fun p hp => by simp only [Option.some.injEq] at hp; omega) rfl rfl
  exact ⟨h1, h2, rfl, by simp [extend]⟩

theorem newRoot_wf (st : VStore) (hw : WF st) (dash : Bool) :
    WF (newRoot st dash).1 ∧ (∀ v : Nat, v < st.size → (newRoot st dash).1[v]? = st[v]?) ∧
    (newRoot st dash).2.v = st.size ∧ (newRoot st dash).1.size = st.size + 1 := by
  obtain ⟨h1, h2⟩ := push_wf st hw { parent := none, kind := .root } (fun p hp => by simp at hp) rfl rfl
  exact ⟨h1, h2, rfl, by simp [newRoot]⟩

theorem wf_modify_cache (st : VStore) (hw : WF st) (v : Nat) (f : VNode → VNode)
    (hf : ∀ n, (f n).parent = n.parent ∧ (f n).kind = n.kind)
    (hl : ∀ n l, st[v]? = some n → (f n).listCache = some l → l = chain st v)
    (hp : ∀ n s, st[v]? = some n → (f n).pathCache = some s → s = renderPure st v) :
    WF (st.modify v f) := by
  have hs := sameShape_modify_cache st v f hf
  refine ⟨?_, ?_, ?_⟩
  · intro u n hn p hpp
    rcases getElem?_modify_some hn with ⟨_, hn⟩ | ⟨rfl, m, hm, rfl⟩
    · exact hw.parentLt u n hn p hpp
    · exact hw.parentLt v m hm p ((hf m).1 ▸ hpp)
  · intro u n l hn hll
    rw [chain_sameShape hs]
    rcases getElem?_modify_some hn with ⟨_, hn⟩ | ⟨rfl, m, hm, rfl⟩
    · exact hw.listOk u n l hn hll
    · exact hl m l hm hll
  · intro u n s hn hss
    rw [renderPure_sameShape hs]
    rcases getElem?_modify_some hn with ⟨_, hn⟩ | ⟨rfl, m, hm, rfl⟩
    · exact hw.pathOk u n s hn hss
    · exact hp m s hm hss

theorem pathAsList_spec (st : VStore) (hw : WF st) (v : Nat) (hv : v < st.size) :
    (pathAsList st v).2 = chain st v ∧ WF (pathAsList st v).1 ∧ SameShape st (pathAsList st v).1 := by
  -- 1 no such vertex; 2 the list is cached; 3 it is computed and stored
  fun_cases pathAsList st v with
  | case1 h1 => have := Array.getElem?_eq_none_iff.mp h1; omega
  | case2 n h1 l hc => exact ⟨hw.listOk v n l h1 hc, hw, fun _ => rfl⟩
  | case3 n h1 hc l =>
    refine ⟨rfl, ?_, sameShape_modify_cache _ _ _ (fun _ => ⟨rfl, rfl⟩)⟩
    exact wf_modify_cache st hw v (VNode.setListCache (chain st v)) (fun _ => ⟨rfl, rfl⟩)
      (fun m l _ hl => by simp [VNode.setListCache] at hl; exact hl.symm)
      (fun m s hm hs => hw.pathOk v m s hm (by simpa [VNode.setListCache] using hs))

/-- **rendering is history-independent**: `str(expr)` equals the pure function of the
expression's own vertex chain, whatever was rendered, evaluated or derived before -/
theorem render_spec (st : VStore) (hw : WF st) (v : Nat) (hv : v < st.size) :
    (render st v).2 = renderPure st v ∧ WF (render st v).1 ∧ SameShape st (render st v).1 := by
  obtain ⟨hl, hwl, hsl⟩ := pathAsList_spec st hw v hv
  have hbody : String.join ((pathAsList st v).2.map fun u => segment (kindOfV (pathAsList st v).1 u))
      = String.join ((chain st v).map fun u => segment (kindOfV st u)) := by
    rw [hl]
    exact congrArg String.join (List.map_congr_left fun u _ => by rw [kindOfV_congr (hsl u)])
  -- 1 no such vertex; 2 the recursive vertex (never cached); 3 the string is cached; 4 it is rendered and stored
  fun_cases render st v with
  | case1 h1 => have := Array.getElem?_eq_none_iff.mp h1; omega
  | case2 n h1 hk r =>
    have hkv : kindOfV st v = n.kind := by simp [kindOfV, h1]
    exact ⟨by simp only [r, hbody, renderPure, hkv, hk, if_true], hwl, hsl⟩
  | case3 n h1 hk s hc => exact ⟨hw.pathOk v n s h1 hc, hw, fun _ => rfl⟩
  | case4 n h1 hk hc r s =>
    have hkv : kindOfV st v = n.kind := by simp [kindOfV, h1]
    have hpure : s = renderPure st v := by
      simp only [s, r, hbody, renderPure, hkv, hk, if_false, String.append_empty]
    rw [hpure]
    generalize (pathAsList st v).1 = st1 at hwl hsl ⊢
    have h2 := sameShape_modify_cache st1 v (VNode.setPathCache (renderPure st v)) (fun _ => ⟨rfl, rfl⟩)
    have h3 : WF (st1.modify v (VNode.setPathCache (renderPure st v))) :=
      wf_modify_cache st1 hwl v _ (fun _ => ⟨rfl, rfl⟩) (fun m l hm hll => hwl.listOk v m l hm hll)
        (fun m s _ hs => by rw [← Option.some.inj hs, renderPure_sameShape hsl])
    exact ⟨rfl, h3, fun u => (h2 u).trans (hsl u)⟩

end Treepath
