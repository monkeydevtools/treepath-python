import Treepath.Proofs.Stack
import Treepath.Proofs.StreamLemmas
import Treepath.Proofs.ErrorLemmas
/-
Semantic half of the refinement: on JSON trees, with the path split as `pre ++ rest`, the stack
machine started at `report n` *walks* `stream rest pre.length n` — it emits that stream and
arrives at `resume stack`, unless on the way an attempt raises; then it has emitted the stream up
to there and stays in that attempt (`walks_stream`, for every path).  When no step can raise
(`Quiet`) a walk is a run (`sim`); `Proofs/SimX.lean` reads it for predicates that raise.
-/
namespace Treepath

section
variable (steps : Array (Step J)) (src : Src J)

/-- started at `S` the machine emits `evs` and arrives at `T` — unless on the way it is stuck
in an attempt whose step raises (and leaves the state as it is): then what it has emitted,
followed by what the raising attempt emits, is an initial part of `evs` -/
inductive Walks : AS J → AS J → List (Ev J) → Prop
  | refl (S : AS J) : Walks S S []
  | step {S S' T : AS J} {evs evs' : List (Ev J)} {sig : Sig J} :
      astep J.view steps src S = (S', evs, sig) → (∀ e, sig ≠ .raised e) → Walks S' T evs' →
      Walks S T (evs ++ evs')
  | stuck {S : AS J} {evs : List (Ev J)} {e : Exc} (T : AS J) (post : List (Ev J)) (s : Step J) (n : MNode J) :
      astep J.view steps src S = (S, evs, .raised e) → s ∈ steps.toList → StepRaises J.view s n e evs →
      Walks S T (evs ++ post)

variable {steps src}

theorem Walks.one {S T : AS J} {evs : List (Ev J)} (h : astep J.view steps src S = (T, evs, .none)) :
    Walks steps src S T evs := by
  simpa using Walks.step h (by simp) (.refl T)

theorem Walks.trans {S T V : AS J} {a b : List (Ev J)}
    (h1 : Walks steps src S T a) (h2 : Walks steps src T V b) : Walks steps src S V (a ++ b) := by
  induction h1 with
  | refl => exact h2
  | step h hs _ ih => rw [List.append_assoc]; exact .step h hs (ih h2)
  | stuck T post s n h hs hr => rw [List.append_assoc]; exact .stuck V _ s n h hs hr

theorem Walks.run {S T : AS J} {evs : List (Ev J)} (h : Walks steps src S T evs) (hq : Quiet steps.toList) :
    ∃ k, arun J.view steps src k S = (T, evs) := by
  induction h with
  | refl => exact ⟨0, rfl⟩
  | step h _ _ ih => obtain ⟨k, hk⟩ := ih; exact ⟨k + 1, by simp [arun, h, hk]⟩
  | stuck T post s n _ hs hr => exact (hr.not_quiet (hq s hs).1 fun f hf => (hq s hs).2 f hf n).elim

variable (steps src)

/-- the items of a multi-valued step, from any state whose action is the iterator protocol
(the attempt that creates the iterator, or the suspended iteration) -/
theorem iter_walks (s : Step J) (hm : s.cls = .multi) (vi : Nat) (n : MNode J) (hs : steps[vi]? = some s)
    (K : MNode J → List (Ev J))
    (ih : ∀ c stk, Walks steps src (.report c (vi+1) (vi+1) stk) (resume stk) (K c)) (stk : List (Frame J)) :
    ∀ (its : List (Name × J)) (S : AS J), astep J.view steps src S = aIter n vi its stk →
      Walks steps src S (resume stk)
        ((its.flatMap fun (nm, x) => Ev.attempt n (vi+1) (some (.child n nm x)) none :: K (.child n nm x))
          ++ [.attempt n (vi+1) none none])
  | [], S, h => by simpa using Walks.one h
  | (nm, x) :: tl, S, h => by
    have p3 := iter_walks s hm vi n hs K ih stk tl (.parked (⟨n, vi, tl⟩ :: stk))
      (astep_parked_multi J.view steps src s hm ⟨n, vi, tl⟩ stk hs)
    simpa [List.append_assoc] using ((Walks.one h).trans (ih (.child n nm x) _)).trans p3

theorem rec_items_walks (K : MNode J → List (Ev J)) (last : Bool) (vi : Nat) (n : MNode J)
    (hs : steps[vi]? = some .recur) (stk : List (Frame J)) :
    ∀ (its : List (Name × J)),
      (∀ it ∈ its, ∀ tl, Walks steps src (.parked (⟨n, vi, it :: tl⟩ :: stk)) (.parked (⟨n, vi, tl⟩ :: stk))
        (recChild K last vi n it.1 it.2)) →
      Walks steps src (.parked (⟨n, vi, its⟩ :: stk)) (resume stk)
        (recItems K last vi n its ++ [.attempt n (vi+1) none none])
  | [], _ => by
    have : astep J.view steps src (.parked (⟨n, vi, []⟩ :: stk)) = (resume stk, [Ev.attempt n (vi+1) none none], .none) := by
      simp [astep, hs, aRecIter]
    simpa [recItems] using Walks.one this
  | it :: tl, hch => by
    have p2 := rec_items_walks K last vi n hs stk tl fun it' h' => hch it' (List.mem_cons_of_mem _ h')
    simpa [recItems, List.append_assoc] using (hch it (by simp) tl).trans p2

theorem rec_child_walks (rest : List (Step J)) (vi : Nat)
    (hs : steps[vi]? = some .recur) (hlast : (vi + 1 = steps.size) ↔ rest = [])
    (ih : ∀ c stk, Walks steps src (.report c (vi+1) (vi+1) stk) (resume stk) (stream rest (vi+1) c)) (x : J) :
    ∀ (n : MNode J) (nm : Name) (tl : List (Name × J)) (stk : List (Frame J)),
      Walks steps src (.parked (⟨n, vi, (nm, x) :: tl⟩ :: stk)) (.parked (⟨n, vi, tl⟩ :: stk))
        (recChild (fun m => stream rest (vi+1) m) rest.isEmpty vi n nm x) := by
  have hstep := fun x n nm tl stk => astep_parked_recur J.view steps src ⟨n, vi, (nm, x) :: tl⟩ stk hs
  induction x using J.items_induction with
  | scalar x hc =>
    -- a scalar child is returned itself, with the recursive vertex but `vertex_index - 1`
    intro n nm tl stk
    rw [recChild_scalar hc]
    have a1 : astep J.view steps src (.parked (⟨n, vi, (nm, x) :: tl⟩ :: stk)) =
        (.report (.child n nm x) (vi+1) vi (⟨n, vi, tl⟩ :: stk), [.attempt n (vi+1) (some (.child n nm x)) none], .none) := by
      rw [hstep]; simp [aRecIter, hc]
    have p1 := Walks.one a1
    by_cases hl : vi + 1 = steps.size
    · have a2 := astep_report_result J.view steps src hl (.child n nm x) vi (⟨n, vi, tl⟩ :: stk)
      have a3 : astep J.view steps src (.catch_ (⟨n, vi, tl⟩ :: stk)) = (.parked (⟨n, vi, tl⟩ :: stk), [], .none) := rfl
      have hre : rest.isEmpty = true := by simp [hlast.mp hl]
      simpa [hre] using p1.trans (Walks.step a2 (by simp) (Walks.one a3))
    · have a2 := astep_report_attempt J.view steps src hl (.child n nm x) vi (⟨n, vi, tl⟩ :: stk)
      have a3 : astep J.view steps src (.attempt (.child n nm x) vi (⟨n, vi, tl⟩ :: stk)) =
          (.parked (⟨n, vi, tl⟩ :: stk), [.attempt (.child n nm x) (vi+1) none none], .none) := by
        simp [astep, aAttempt, hs, MNode.data, hc, resume]
      have hre : rest.isEmpty = false := by
        cases hr : rest with
        | nil => exact absurd (hlast.mpr hr) hl
        | cons _ _ => rfl
      simpa [hre] using (p1.trans (Walks.one a2)).trans (Walks.one a3)
  | container x cits hc ihx =>
    -- a container child is parked at once; its bookkeeping twin is returned
    intro n nm tl stk
    rw [recChild_container hc]
    have a1 : astep J.view steps src (.parked (⟨n, vi, (nm, x) :: tl⟩ :: stk)) =
        (.report (.imag (.child n nm x)) (vi+1) (vi+1) (⟨.child n nm x, vi, cits⟩ :: ⟨n, vi, tl⟩ :: stk),
         [.attempt n (vi+1) (some (.imag (.child n nm x))) none], .none) := by
      rw [hstep]; simp [aRecIter, hc]
    have p3 := rec_items_walks steps src (fun m => stream rest (vi+1) m) rest.isEmpty vi (.child n nm x) hs
      (⟨n, vi, tl⟩ :: stk) cits fun it hit tl' => ihx it hit _ _ _ _
    simpa [resume, List.append_assoc] using ((Walks.one a1).trans (ih _ _)).trans p3

/-- **Simulation**: with `steps = pre ++ rest`, the stack machine at `report n` walks
`stream rest pre.length n` towards `resume stack` — for every path. -/
theorem walks_stream (rest : List (Step J)) :
    ∀ (pre : List (Step J)) (n : MNode J) (stk : List (Frame J)), steps.toList = pre ++ rest →
      Walks steps src (.report n pre.length pre.length stk) (resume stk) (stream rest pre.length n) := by
  induction rest with
  | nil =>
    intro pre n stk hd
    have hsz : pre.length = steps.size := by
      have := congrArg List.length hd; simp at this; omega
    have a1 := astep_report_result J.view steps src hsz n pre.length stk
    have a2 : astep J.view steps src (.catch_ stk) = (resume stk, [], .none) := rfl
    simpa [stream] using Walks.step a1 (by simp) (Walks.one a2)
  | cons s rest ih =>
    intro pre n stk hd
    have hsz : steps.size = pre.length + (rest.length + 1) := by
      have := congrArg List.length hd; simp at this; omega
    have hget : steps[pre.length]? = some s := by
      rw [← Array.getElem?_toList, hd]; simp
    have hmem := mem_toList_of_getElem? hget
    have ih' := fun c stk => ih (pre ++ [s]) c stk (by simp [hd])
    simp only [List.length_append, List.length_cons, List.length_nil, Nat.zero_add] at ih'
    have a0 := astep_report_attempt J.view steps src (by omega : pre.length ≠ steps.size) n pre.length stk
    -- it suffices to walk the stream from the attempt state
    suffices h : Walks steps src (.attempt n pre.length stk) (resume stk) (stream (s :: rest) pre.length n) by
      simpa using (Walks.one a0).trans h
    have hA : astep J.view steps src (.attempt n pre.length stk) = aAttempt J.view steps n pre.length stk := rfl
    cases hcl : s.cls with
    | multi =>
      rw [aAttempt_multi J.view steps s hcl n pre.length stk hget] at hA
      cases hio : itemsOf s n.data.view with
      | wrongKind => rw [hio] at hA; simpa [stream, hcl, hio] using Walks.one hA
      | valueError => rw [hio] at hA; simpa [stream, hcl, hio] using Walks.stuck (resume stk) [] s n hA hmem (.zeroStep hio)
      | ok its =>
        rw [hio] at hA
        simpa [stream, hcl, hio] using iter_walks steps src s hcl pre.length n hget _ ih' stk its _ hA
    | single =>
      rw [aAttempt_single J.view steps s hcl n pre.length stk hget] at hA
      cases hso : singleOf J.view s n with
      | none => rw [hso] at hA; simpa [stream, hcl, hso] using Walks.one hA
      | some n' => rw [hso] at hA; simpa [stream, hcl, hso] using (Walks.one hA).trans (ih' n' stk)
    | filter =>
      obtain ⟨f, rfl⟩ := Step.eq_filter_of_cls hcl
      simp only [aAttempt, hget] at hA
      cases hres : (f n).res with
      | val j =>
        rw [hres] at hA
        by_cases ht : j.truthy = true
        · simp only [ht, if_true] at hA
          simpa [stream, Step.cls, hres, ht, List.append_assoc] using (Walks.one hA).trans (ih' (.imag n) stk)
        · simp only [ht] at hA
          simpa [stream, Step.cls, hres, ht] using Walks.one hA
      | raise e =>
        rw [hres] at hA
        simpa [stream, Step.cls, hres] using Walks.stuck (resume stk) [] _ n hA hmem (.pred f e rfl hres)
    | recur =>
      obtain rfl := Step.eq_recur_of_cls hcl
      have hlast : (pre.length + 1 = steps.size) ↔ rest = [] := by
        rw [← List.length_eq_zero_iff]; omega
      simp only [aAttempt, hget] at hA
      cases hc : allItems n.data.view with
      | none =>
        have hnc : n.data.isContainer = false := (allItems_none_iff _).mp hc
        rw [hc] at hA
        simpa [stream, Step.cls, hnc] using Walks.one hA
      | some its =>
        have hnc : n.data.isContainer = true := by rw [← allItems_isContainer, hc]; rfl
        rw [hc] at hA
        have p3 := rec_items_walks steps src (fun m => stream rest (pre.length+1) m) rest.isEmpty pre.length n hget stk its
          fun it _ tl => rec_child_walks steps src rest pre.length hget hlast ih' it.2 n it.1 tl stk
        simpa [stream, Step.cls, hnc, recBody_items hc, List.append_assoc] using
          ((Walks.one hA).trans (ih' (.imag n) _)).trans p3

theorem walks_init : Walks steps src .init .done (stream steps.toList 0 src.rootNode) := by
  have a : astep J.view steps src .init = (.report src.rootNode 0 0 [], [], .none) := rfl
  simpa [resume] using (Walks.one a).trans (walks_stream steps src steps.toList [] src.rootNode [] (by simp))

/-- **Simulation, quiet paths**: the walk is a run — the stack machine at `report n` emits
exactly `stream rest pre.length n` and arrives at `resume stack`. -/
theorem sim (rest pre : List (Step J)) (n : MNode J) (stk : List (Frame J)) (hd : steps.toList = pre ++ rest)
    (hq : Quiet steps.toList) :
    ∃ k, arun J.view steps src k (.report n pre.length pre.length stk) = (resume stk, stream rest pre.length n) :=
  (walks_stream steps src rest pre n stk hd).run hq

end
end Treepath
