import Treepath.Proofs.EvalLemmas
import Treepath.Proofs.NodeLemmas
import Treepath.Proofs.StepLemmas
/- `get_match(m.path, document)` finds `m` again -/
namespace Treepath

def nameStep : Name → Step J
  | .key k => .key k
  | .idx i => .idx i

/-- `match_to_path`: one key / index step per element of `path_match_list` below the root -/
def toPath (n : MNode J) : List (Step J) := n.loc.map nameStep

/-- reading `container[name]` -/
def lookupName (j : J) (nm : Name) : Option J :=
  match j, nm with
  | .obj es, .key k => es.lookup k
  | .arr xs, .idx i => getPy? xs i
  | _, _ => none

/-- the match chain is *consistent* with the document: every link's value is what reading the
parent's value at the link's name gives (no parent steps) -/
def Consistent : MNode J → Prop
  | .root _ => True
  | .child p nm d => Consistent p ∧ lookupName p.data nm = some d
  | .imag p => Consistent p
  | .par _ _ => False

def rootOf : MNode J → MNode J
  | .root d => .root d
  | .child p _ _ => rootOf p
  | .imag p => rootOf p
  | .par _ f => rootOf f

theorem notEndsInRecur_nameSteps (l : List Name) : notEndsInRecur (l.map nameStep) = true :=
  notEndsInRecur_of_forall _ fun s hs => by obtain ⟨nm, _, rfl⟩ := List.mem_map.mp hs; cases nm <;> rfl

theorem lookupName_eq_childAt (j : J) (nm : Name) : lookupName j nm = childAt j.view nm := by
  cases j <;> cases nm <;> rfl

theorem evalStep_nameStep (nm : Name) (n : MNode J) :
    evalStep (nameStep nm) n = (((childAt (J.view n.data) nm).map (MNode.child n nm)).toList, none) := by
  cases nm
  · rw [nameStep, evalStep_single _ _ rfl, singleOf_key]
  · rw [nameStep, evalStep_single _ _ rfl, singleOf_idx]

/-- **round trip**: evaluating the explicit path of a consistent, parent-free match from its
own root finds exactly that location, holding the same value -/
theorem roundtrip (n : MNode J) (hc : Consistent n) :
    evalE (toPath n) (rootOf n) = ([n.erase], none) := by
  induction n with
  | root d => rfl
  | child p nm d ih =>
    obtain ⟨hp, hl⟩ := hc
    have : toPath (.child p nm d) = toPath p ++ [nameStep nm] := by simp [toPath, MNode.loc]
    rw [this, evalE_append (toPath p) [nameStep nm] (notEndsInRecur_nameSteps p.loc)]
    simp only [rootOf, ih hp, bindRes_pure]
    rw [evalE_cons_bind (by cases nm <;> rfl), evalStep_nameStep, MNode.data_erase, ← lookupName_eq_childAt, hl]
    rfl
  | imag p ih => exact ih hc
  | par r f _ _ => exact hc.elim

end Treepath
