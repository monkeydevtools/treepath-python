import Treepath.Model.Path
/- bookkeeping (`imag`) nodes are invisible to every public observable; erasing them (`erase`)
keeps `data`, `dataName`, `segs`, `pathStr` and `loc` (the derivation links `parent`,
`remParent`, `pathMatchList` then lead to erased nodes; nothing is proved about them) -/
namespace Treepath
namespace MNode
variable {α : Type}

@[simp] theorem data_imag (p : MNode α) : (imag p).data = p.data := rfl
@[simp] theorem dataName_imag (p : MNode α) : (imag p).dataName = p.dataName := rfl
@[simp] theorem parent_imag (p : MNode α) : (imag p).parent = p.parent := rfl
@[simp] theorem remParent_imag (p : MNode α) : (imag p).remParent = p.remParent := rfl
@[simp] theorem segs_imag (p : MNode α) : (imag p).segs = p.segs := rfl
@[simp] theorem pathStr_imag (p : MNode α) : (imag p).pathStr = p.pathStr := rfl
@[simp] theorem pathMatchList_imag (p : MNode α) : (imag p).pathMatchList = p.pathMatchList := rfl
@[simp] theorem erase_imag (p : MNode α) : (imag p).erase = p.erase := rfl
@[simp] theorem loc_imag (p : MNode α) : (imag p).loc = p.loc := rfl

theorem data_erase (n : MNode α) : n.erase.data = n.data := by
  induction n with
  | root d => rfl
  | child p nm d _ => rfl
  | imag p ih => exact ih
  | par r f ihr _ => exact ihr

theorem dataName_erase (n : MNode α) : n.erase.dataName = n.dataName := by
  induction n with
  | root d => rfl
  | child p nm d _ => rfl
  | imag p ih => exact ih
  | par r f ihr _ => exact ihr

theorem segs_erase (n : MNode α) : n.erase.segs = n.segs := by
  induction n with
  | root d => rfl
  | child p nm d ih => simp [erase, segs, ih]
  | imag p ih => exact ih
  | par r f ihr ihf => simp [erase, segs, ihf, dataName_erase]

theorem pathStr_erase (n : MNode α) : n.erase.pathStr = n.pathStr := by
  simp [pathStr, segs_erase]

theorem loc_erase (n : MNode α) : n.erase.loc = n.loc := by
  induction n with
  | root d => rfl
  | child p nm d ih => simp [erase, loc, ih]
  | imag p ih => exact ih
  | par r f ihr _ => exact ihr

theorem erase_erase (n : MNode α) : n.erase.erase = n.erase := by
  induction n with
  | root d => rfl
  | child p nm d ih => simp [erase, ih]
  | imag p ih => exact ih
  | par r f ihr ihf => simp [erase, ihr, ihf]

end MNode

theorem foldl_append_init (a : String) (l : List String) :
    List.foldl (fun r s => r ++ s) a l = a ++ List.foldl (fun r s => r ++ s) "" l := by
  induction l generalizing a with
  | nil => simp
  | cons x xs ih =>
    simp only [List.foldl_cons]
    rw [ih (a ++ x), ih ("" ++ x)]
    simp [String.append_assoc]

end Treepath
