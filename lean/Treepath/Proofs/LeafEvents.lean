import Treepath.Proofs.StreamEval
import Treepath.Proofs.Work
/- "The events delivered outside filter evaluation that attempted the path's last step and
succeeded correspond one-to-one, in order, to the results yielded" — for the specification
stream (and hence, through `full_run`, for the trace of the machine). -/
namespace Treepath

/-- a successful attempt of the search itself (no `predicate_match`) at step index `L` -/
def leafHit (L : Nat) : Ev J → Option (MNode J)
  | .attempt _ i (some m) none => if i = L then some m else none
  | _ => none

def leafHits (L : Nat) (evs : List (Ev J)) : List (MNode J) := evs.filterMap (leafHit L)

@[simp] theorem leafHits_nil (L : Nat) : leafHits L [] = [] := rfl
@[simp] theorem leafHits_append (L : Nat) (a b : List (Ev J)) : leafHits L (a ++ b) = leafHits L a ++ leafHits L b :=
  List.filterMap_append
@[simp] theorem leafHits_hit (L : Nat) (l m : MNode J) (i : Nat) (t : List (Ev J)) :
    leafHits L (.attempt l i (some m) none :: t) = (if i = L then [m] else []) ++ leafHits L t := by
  by_cases h : i = L <;> simp [leafHits, leafHit, h]
@[simp] theorem leafHits_miss (L : Nat) (l : MNode J) (i : Nat) (t : List (Ev J)) :
    leafHits L (.attempt l i none none :: t) = leafHits L t := List.filterMap_cons_none rfl
@[simp] theorem leafHits_predCall (L : Nat) (c : MNode J) (t : List (Ev J)) : leafHits L (.predCall c :: t) = leafHits L t :=
  List.filterMap_cons_none rfl
@[simp] theorem leafHits_result (L : Nat) (c : MNode J) (t : List (Ev J)) : leafHits L (.result c :: t) = leafHits L t :=
  List.filterMap_cons_none rfl
@[simp] theorem leafHits_raised (L : Nat) (e : Exc) (t : List (Ev J)) : leafHits L (.raised e :: t) = leafHits L t :=
  List.filterMap_cons_none rfl

theorem leafHit_eq_some {L : Nat} {e : Ev J} {m : MNode J} (h : leafHit L e = some m) :
    ∃ l, e = .attempt l L (some m) none := by
  unfold leafHit at h
  split at h
  · split at h
    · cases h; subst_vars; exact ⟨_, rfl⟩
    · cases h
  · cases h

theorem leafHits_of_stamped (L : Nat) (evs : List (Ev J)) (h : attemptsTop evs = 0) : leafHits L evs = [] :=
  filterMap_of_stamped (fun _ _ hm => let ⟨l, he⟩ := leafHit_eq_some hm; ⟨l, _, _, he⟩) h

/-- every hit is directly followed by its result, and there is no other result: so hits and
results are the same list.  The shape passes to the part through the first `raised` event
(`Paired.ttr`), hence the same for the trace of a run in which a predicate raises. -/
inductive Paired (L : Nat) : List (Ev J) → Prop
  | nil : Paired L []
  | hit (l m : MNode J) (t : List (Ev J)) : Paired L t → Paired L (.attempt l L (some m) none :: .result m :: t)
  | other (e : Ev J) (t : List (Ev J)) : leafHit L e = none → (∀ m, e ≠ .result m) → Paired L t → Paired L (e :: t)

theorem Paired.append {L : Nat} {a b : List (Ev J)} (ha : Paired L a) (hb : Paired L b) : Paired L (a ++ b) := by
  induction ha with
  | nil => simpa using hb
  | hit l m t _ ih => exact .hit l m _ ih
  | other e t h1 h2 _ ih => exact .other e _ h1 h2 ih

theorem Paired.flatMap {L : Nat} {β} (f : β → List (Ev J)) (l : List β) (h : ∀ x ∈ l, Paired L (f x)) :
    Paired L (l.flatMap f) := by
  induction l with
  | nil => exact .nil
  | cons x xs ih =>
    simp only [List.flatMap_cons]
    exact (h x (by simp)).append (ih (fun y hy => h y (List.mem_cons_of_mem _ hy)))

theorem Paired.hits_eq {L : Nat} {evs : List (Ev J)} (h : Paired L evs) : leafHits L evs = resultsOf evs := by
  induction h with
  | nil => rfl
  | hit l m t _ ih => simp [ih]
  | other e t h1 h2 _ ih =>
    have b : resultsOf (e :: t) = resultsOf t := List.filterMap_cons_none (by
      split
      · exact absurd rfl (h2 _)
      · rfl)
    rw [leafHits, List.filterMap_cons_none h1, b, ← ih, leafHits]

theorem Paired.ttr {L : Nat} {evs : List (Ev J)} (h : Paired L evs) : Paired L (takeThroughRaise evs) := by
  induction h with
  | nil => exact .nil
  | hit l m t _ ih => simpa [takeThroughRaise] using Paired.hit l m _ ih
  | other e t h1 h2 _ ih =>
    cases e with
    | raised x => simpa [takeThroughRaise] using Paired.other (.raised x) [] h1 h2 .nil
    | result c => exact absurd rfl (h2 c)
    | _ => simpa [takeThroughRaise] using Paired.other _ _ h1 h2 ih

theorem paired_of_own (L : Nat) (evs : List (Ev J)) (h1 : attemptsTop evs = 0) (h2 : resultsOf evs = []) : Paired L evs := by
  have h : ∀ e ∈ evs, leafHit L e = none ∧ ∀ m, e ≠ .result m := fun e he =>
    ⟨List.filterMap_eq_nil_iff.mp (leafHits_of_stamped L evs h1) e he, fun m hm => resultsOf_eq_nil.mp h2 m (hm ▸ he)⟩
  clear h1 h2
  induction evs with
  | nil => exact .nil
  | cons e t ih =>
    exact .other e t (h e List.mem_cons_self).1 (h e List.mem_cons_self).2 (ih fun x hx => h x (List.mem_cons_of_mem _ hx))

theorem paired_miss (L : Nat) (l : MNode J) (i : Nat) : Paired L [.attempt l i none none] :=
  .other _ _ rfl nofun .nil

theorem paired_reach (s : Step J) (rest : List (Step J)) (vi : Nat) (l m : MNode J)
    (ih : rest ≠ [] → Paired (vi + 1 + rest.length) (stream rest (vi+1) m)) :
    Paired (vi + (s :: rest).length) (.attempt l (vi+1) (some m) none :: stream rest (vi+1) m) := by
  cases rest with
  | nil => exact .hit l m [] .nil
  | cons r rs =>
    have hL : vi + (s :: r :: rs).length = vi + 1 + (r :: rs).length := by simp only [List.length_cons]; omega
    rw [hL]
    exact .other _ _ (by simp [leafHit]) nofun (ih (by simp))

/-- `L` is the index of the path's last step; `hB`: the recursive step at `vi + 1` is that step
exactly when `recBody` is told so (`last`) -/
theorem paired_recBody {k : MNode J → List (Ev J)} {last : Bool} (vi : Nat) {L : Nat}
    (hB : last = true ↔ vi + 1 = L)
    (hk : ∀ l m : MNode J, Paired L (.attempt l (vi+1) (some m) none :: k m)) (j : J) :
    ∀ l m : MNode J, j.isContainer = true →
      Paired L (.attempt l (vi+1) (some (.imag m)) none :: recBody k last vi m j) := by
  induction j using J.items_induction with
  | scalar x hc => intro _ _ h; rw [(allItems_none_iff x).mp hc] at h; cases h
  | container x its hc ih =>
    intro l m _
    have hitems : Paired L (recItems k last vi m its) := by
      refine Paired.flatMap _ its fun it hit => ?_
      cases hci : it.2.isContainer with
      | true => rw [recChild_body hci]; exact ih it hit m _ hci
      | false =>
        rw [recChild_scalar ((allItems_none_iff it.2).mpr hci)]
        cases hl : last with
        | true => rw [← hB.mp hl]; exact .hit _ _ _ .nil
        | false =>
          have hne : ¬ vi + 1 = L := fun e => by simp [hB.mpr e] at hl
          exact .other _ _ (by simp [leafHit, hne]) nofun (paired_miss L _ _)
    rw [recBody_items hc]
    exact ((hk l (.imag m)).append hitems).append (paired_miss L m (vi+1))

theorem stream_paired (p : List (Step J)) (hne : p ≠ []) (hs : PredsStamped p) (hsil : PredsSilent p) :
    ∀ (vi : Nat) (n : MNode J), Paired (vi + p.length) (stream p vi n) := by
  intro vi n
  induction p, vi, n using stream_induction with
  | nil => exact absurd rfl hne
  | miss _ _ _ _ _ _ he | wrongKind _ _ _ _ _ _ he | recurScalar _ _ _ _ he => rw [he]; exact paired_miss ..
  | hit s rest vi n n' _ _ he ih =>
    rw [he]; exact paired_reach s rest vi n n' fun h => ih h hs.tail hsil.tail
  | filter f rest vi n he ih =>
    have h1 := paired_of_own (vi + (Step.filter f :: rest).length) _ (hs (.filter f) (by simp) f rfl n)
      (hsil (.filter f) (by simp) f rfl n)
    rw [he]
    refine .other _ _ rfl nofun (h1.append ?_)
    cases (f n).res with
    | val j =>
      by_cases ht : j.truthy = true
      · simp only [ht, if_true]
        exact paired_reach _ rest vi n (.imag n) fun h => ih h hs.tail hsil.tail
      · simp only [ht]; exact paired_miss ..
    | raise e => exact .other _ _ rfl nofun .nil
  | valueError _ _ _ _ _ _ he => rw [he]; exact .other _ _ rfl nofun .nil
  | items s rest vi n its _ _ he ih =>
    rw [he]
    refine (Paired.flatMap _ its fun it _ => ?_).append (paired_miss ..)
    exact paired_reach s rest vi n _ fun h => ih it.1 it.2 h hs.tail hsil.tail
  | recur rest vi n hc he ih =>
    have hB : rest.isEmpty = true ↔ vi + 1 = vi + (Step.recur :: rest).length := by
      cases rest <;> simp [List.length_cons]
    rw [he]
    exact paired_recBody vi hB (fun l m => paired_reach .recur rest vi l m fun h => ih m h hs.tail hsil.tail)
      n.data n n hc

/-- **leaf events = results**: in the stream of a non-empty path whose predicates keep to
themselves (their attempts stamped, no results of their own), the successful attempts of the
search itself at the last step are exactly the results, in order -/
theorem leaf_hits_are_results (p : List (Step J)) (hne : p ≠ []) (hs : PredsStamped p) (hsil : PredsSilent p)
    (vi : Nat) (n : MNode J) : leafHits (vi + p.length) (stream p vi n) = resultsOf (stream p vi n) :=
  (stream_paired p hne hs hsil vi n).hits_eq

/-- **leaf events = results, through the first exception** -/
theorem leaf_hits_are_results_x (p : List (Step J)) (hne : p ≠ []) (hs : PredsStamped p) (hsil : PredsSilent p)
    (vi : Nat) (n : MNode J) :
    leafHits (vi + p.length) (takeThroughRaise (stream p vi n)) = resultsOf (takeThroughRaise (stream p vi n)) :=
  (stream_paired p hne hs hsil vi n).ttr.hits_eq

end Treepath
