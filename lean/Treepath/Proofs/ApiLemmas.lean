import Treepath.Model.Api
/- the operations of `Model/Api.lean` read off what they are defined from: `get_match` off the
first `next()` of a fresh iterator, the chain `==` compares off `parent` -/
namespace Treepath
variable {α : Type}

theorem getMatch_eq (cx : Ctx α) (steps : Array (Step α)) (src : Src α) (mm : Bool) :
    getMatch cx steps src mm =
      match (next cx.view steps src cx.limit freshIter).2.2 with
      | .result n => .ok (some n)
      | .stop => if mm then .error (if src.isNested then .nestedMatchNotFound else .matchNotFound) else .ok none
      | .raised e => .error (.exc e)
      | .none => .error (.bug "none")
      | .bug m => .error (.bug m) := by
  simp only [getMatch, nextOut]
  rcases next cx.view steps src cx.limit freshIter with ⟨st', evs, sig⟩
  cases sig <;> rfl

theorem getMatch_some (cx : Ctx α) (steps : Array (Step α)) (src : Src α) (mm : Bool) (m : MNode α) :
    getMatch cx steps src mm = .ok (some m) ↔ (next cx.view steps src cx.limit freshIter).2.2 = .result m := by
  rw [getMatch_eq]
  cases (next cx.view steps src cx.limit freshIter).2.2 <;> simp
  split <;> simp

theorem getMatch_notfound (cx : Ctx α) (steps : Array (Step α)) (src : Src α) (mm : Bool)
    (h : getMatch cx steps src mm = .ok none ∨ getMatch cx steps src mm = .error .matchNotFound) :
    (next cx.view steps src cx.limit freshIter).2.2 = .stop := by
  rw [getMatch_eq] at h
  cases hs : (next cx.view steps src cx.limit freshIter).2.2 <;> simp [hs] at h
  rfl

theorem ndChain_unfold (n : MNode J) :
    n.ndChain = (n.dataName, n.data) :: (match n.parent with | none => [] | some p => p.ndChain) := by
  induction n with
  | root d => rfl
  | child p nm d _ => rfl
  | imag p ih => exact ih
  | par r f _ _ => rfl

theorem getMatch_doc_not_nested {α : Type} {cx : Ctx α} {steps : Array (Step α)} {d : α} {mm : Bool} :
    getMatch cx steps (.doc d) mm ≠ .error .nestedMatchNotFound := by
  rw [getMatch_eq]
  generalize (next cx.view steps (.doc d) cx.limit freshIter).2.2 = sig
  intro hg
  cases sig with
  | stop => cases mm <;> cases hg
  | _ => cases hg

end Treepath
