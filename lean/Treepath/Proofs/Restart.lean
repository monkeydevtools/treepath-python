import Treepath.Proofs.Invariant
import Treepath.Model.Api
/-
Two heap-machine states that are related to the *same* stack-machine state are
indistinguishable through `next()`: same events, same signal, and again related to a common
stack-machine state.  In particular `iter(it)` on any iterator — which only sets the next action to `init_action` — behaves like a fresh
iterator from then on, whatever is left in the heap from the search before.
-/
namespace Treepath
variable {α : Type}

section
variable (view : α → View α) (steps : Array (Step α)) (src : Src α)

theorem next_indistinguishable (limit : Nat) (s1 s2 : St α) (as : AS α)
    (h1 : R steps s1 as) (h2 : R steps s2 as) :
    (next view steps src limit s1).2 = (next view steps src limit s2).2 ∧
    ∃ as', R steps (next view steps src limit s1).1 as' ∧ R steps (next view steps src limit s2).1 as' := by
  obtain ⟨e1, r1⟩ := next_anext view steps src limit s1 as h1
  obtain ⟨e2, r2⟩ := next_anext view steps src limit s2 as h2
  exact ⟨e1.trans e2.symm, _, r1, r2⟩

/-- what a caller observes of `k` consecutive `next()` calls: events and signal of each -/
def observe (limit : Nat) : Nat → St α → List (List (Ev α) × Sig α)
  | 0, _ => []
  | k+1, st =>
    let r := next view steps src limit st
    r.2 :: observe limit k r.1

theorem observe_indistinguishable (limit k : Nat) (s1 s2 : St α) (as : AS α)
    (h1 : R steps s1 as) (h2 : R steps s2 as) :
    observe view steps src limit k s1 = observe view steps src limit k s2 := by
  induction k generalizing s1 s2 as with
  | zero => rfl
  | succ k ih =>
    obtain ⟨he, as', q1, q2⟩ := next_indistinguishable view steps src limit s1 s2 as h1 h2
    simp only [observe]
    rw [he, ih _ _ as' q1 q2]

/-- **`iter()` restarts the search**: after `iter(it)` on an iterator in *any* state (fresh,
part-way, exhausted, stuck at a raising predicate), every following sequence of `next()`
calls observes exactly what it observes on a fresh iterator -/
theorem reiter_is_fresh (limit k : Nat) (st : St α) :
    observe view steps src limit k (reiter st) = observe view steps src limit k freshIter :=
  observe_indistinguishable view steps src limit k _ _ .init (.init _ rfl) (.init _ rfl)

end
end Treepath
