import Treepath.Model.Basic
/-
What the proofs need to know about `slice.indices` and `range`: the step is never 0, both ends
are clamped, and a range stays between its ends.  `sliceIndices` is unfolded here and nowhere else.
-/
namespace Treepath

theorem sliceIndices_eq_none (a b c : Option Int) (len : Nat) : sliceIndices a b c len = none ↔ c = some 0 := by
  unfold sliceIndices
  by_cases h0 : c.getD 1 = 0
  · rw [if_pos h0]
    cases c with
    | none => cases h0
    | some v => exact ⟨fun _ => congrArg some h0, fun _ => rfl⟩
  · rw [if_neg h0]
    exact ⟨fun h => (by cases h), fun hc => absurd (by rw [hc]; rfl) h0⟩

theorem clamp_ge {lo up n : Int} (v : Int) (h0 : lo ≤ 0) (h1 : lo ≤ up) :
    lo ≤ if v < 0 then (if v + n < lo then lo else v + n) else (if v > up then up else v) := by
  split <;> split <;> omega

theorem sliceIndices_eq_some (a b c : Option Int) (len : Nat) (s e st : Int)
    (h : sliceIndices a b c len = some (s, e, st)) :
    st = c.getD 1 ∧ st ≠ 0 ∧ (if st < 0 then -1 else 0) ≤ s ∧ (if st < 0 then -1 else 0) ≤ e := by
  unfold sliceIndices at h
  generalize c.getD 1 = st0 at h
  -- `split at h` on the unfolded definition is slow: decide the outer test by hand
  by_cases hst : st0 = 0
  · simp [hst] at h
  · simp only [hst, if_false, Option.some.injEq, Prod.mk.injEq] at h
    obtain ⟨rfl, rfl, rfl⟩ := h
    refine ⟨rfl, hst, ?_, ?_⟩
    · cases a with
      | none => simp only; split <;> omega
      | some v => exact clamp_ge v (by split <;> omega) (by split <;> omega)
    · cases b with
      | none => simp only; split <;> omega
      | some v => exact clamp_ge v (by split <;> omega) (by split <;> omega)

theorem mul_lt_of_lt_ceilDiv (d x : Int) (k : Nat) (hd : 0 < d) (hk : k < ((x + d - 1) / d).toNat) : d * k < x := by
  have h1 : d * ((x + d - 1) / d) ≤ x + d - 1 := Int.mul_ediv_self_le (Int.ne_of_gt hd)
  have h2 : d * ((k : Int) + 1) ≤ d * ((x + d - 1) / d) := Int.mul_le_mul_of_nonneg_left (by omega) (Int.le_of_lt hd)
  rw [Int.mul_add, Int.mul_one] at h2
  omega

theorem mem_rangeList (s e st i : Int) (h : i ∈ rangeList s e st) :
    (0 < st ∧ s ≤ i ∧ i < e) ∨ (st < 0 ∧ e < i ∧ i ≤ s) := by
  simp only [rangeList, List.mem_map, List.mem_range, Int.ofNat_eq_natCast] at h
  obtain ⟨k, hk, rfl⟩ := h
  by_cases hp : st > 0
  · simp only [hp, if_true] at hk
    split at hk
    · have := mul_lt_of_lt_ceilDiv st (e - s) k hp hk
      have : 0 ≤ st * (k : Int) := Int.mul_nonneg (Int.le_of_lt hp) (Int.natCast_nonneg k)
      exact .inl ⟨hp, by omega, by omega⟩
    · simp at hk
  · by_cases hn : st < 0
    · simp only [hp, if_false, hn, if_true] at hk
      split at hk
      · have := mul_lt_of_lt_ceilDiv (-st) (s - e) k (Int.neg_pos_of_neg hn) hk
        have : 0 ≤ (-st) * (k : Int) := Int.mul_nonneg (Int.neg_nonneg_of_nonpos (Int.le_of_lt hn)) (Int.natCast_nonneg k)
        rw [Int.neg_mul] at *
        exact .inr ⟨hn, by omega, by omega⟩
      · simp at hk
    · simp [hp, hn] at hk

/-- `slice.indices` normalises both ends into `[-1, len]`; the indices `range` then produces
are never negative -/
theorem rangeList_nonneg (a b c : Option Int) (len : Nat) (s e st : Int)
    (h : sliceIndices a b c len = some (s, e, st)) : ∀ i ∈ rangeList s e st, 0 ≤ i := by
  intro i hi
  obtain ⟨_, _, hs, he⟩ := sliceIndices_eq_some a b c len s e st h
  rcases mem_rangeList s e st i hi with ⟨hp, h1, _⟩ | ⟨hn, h1, _⟩
  · rw [if_neg (by omega)] at hs; omega
  · rw [if_pos hn] at he; omega

theorem rangeList_nodup (s e st : Int) (h : st ≠ 0) : (rangeList s e st).Nodup := by
  refine List.pairwise_map.mpr (List.nodup_range.imp fun {a b} hne he => hne ?_)
  exact Int.ofNat.inj (Int.eq_of_mul_eq_mul_left h (by omega))

theorem sliceItems_eq_none {β} (a b c : Option Int) (xs : List β) : sliceItems a b c xs = none ↔ c = some 0 := by
  rw [← sliceIndices_eq_none a b c xs.length]
  unfold sliceItems
  split <;> simp [*]

theorem mem_sliceItems {β} (a b c : Option Int) (xs : List β) (its : List (Int × β))
    (h : sliceItems a b c xs = some its) : ∀ p ∈ its, 0 ≤ p.1 ∧ xs[p.1.toNat]? = some p.2 := by
  unfold sliceItems at h
  split at h
  · simp at h
  · rename_i s e st hsi
    simp only [Option.some.injEq] at h
    subst h
    intro p hp
    simp only [List.mem_filterMap, Option.map_eq_some_iff] at hp
    obtain ⟨i, hi, x, hx, rfl⟩ := hp
    exact ⟨rangeList_nonneg a b c xs.length s e st hsi i hi, hx⟩

end Treepath
