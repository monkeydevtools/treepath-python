import Treepath.Proofs.RoundTrip
import Treepath.Proofs.RefoldApi
import Treepath.Proofs.HeapSearch
/-
What the last step of a path says about its results: a path ending in a key (index) step only
yields children named by that key (index).  Used to show that `pop` never meets a missing entry
on the match it has just found (its `KeyError` / `IndexError` branches are dead on a tree).
-/
namespace Treepath

theorem last_name_results (nm : Name) : ∀ (p : List (Step J)), p.getLast? = some (nameStep nm) →
    ∀ (n m : MNode J), m ∈ (evalE p n).1 →
      ∃ q x, m = .child q nm x ∧ childAt q.data.view nm = some x := by
  intro p
  induction p with
  | nil => intro h; simp at h
  | cons s rest ih =>
    intro hl n m hm
    cases rest with
    | nil =>
      obtain rfl : s = nameStep nm := by simpa using hl
      rw [evalE_cons_bind (by cases nm <;> rfl), evalStep_nameStep, bindRes_fst] at hm
      obtain ⟨a, ha, hma⟩ := mem_seqFlat hm
      obtain ⟨x, hx, rfl⟩ := Option.map_eq_some_iff.mp (Option.mem_toList.mp ha)
      cases List.mem_singleton.mp hma
      exact ⟨n, x, rfl, hx⟩
    | cons r rs =>
      rw [evalE_cons, bindRes_fst] at hm
      obtain ⟨a, _, ha⟩ := mem_seqFlat hm
      exact ih (by simpa [List.getLast?_cons_cons] using hl) a m ha

/-- on a store that unfolds to a tree the match `pop` has just found still holds its entry:
`vertex.pop` fails only with PopError (last step not a key / index, or aimed at the root) -/
theorem vertexPop_on_found {h : Heap} {root : Val} {j : J} (hu : Unf h root j) (hwf : HeapWF h)
    (sa : Array (Step Val)) (sb : Array (Step J)) (hsteps : LRel (StepRel (Unf h)) sa.toList sb.toList)
    (hp : PredsClean sb) {mm : Bool} {m : MNode Val}
    (hg : getMatch (wcx h) sa (.doc root) mm = .ok (some m)) {e : ApiErr}
    (hv : vertexPop h sa.toList.getLast? m = .error e) : e = .popError := by
  refine (vertexPop_error hv).elim id fun ⟨_, p, nm, hpar, hl, hnone⟩ => ?_
  obtain ⟨m', hrel, hhead⟩ := getMatch_heap_found h root j hu sa sb hsteps hp mm m hg
  have hgen := getMatch_gen (wcx h) (heapwf_keysUniq hwf) sa root mm m hg
  -- the path's last step is the name step `nm` on both sides, so the match is a child called `nm`
  have hlast := hsteps.getLast?
  rw [hl] at hlast
  obtain ⟨sl, hlb⟩ : ∃ sl, sb.toList.getLast? = some sl := by
    cases hlb : sb.toList.getLast? with
    | none => rw [hlb] at hlast; cases hlast
    | some sl => exact ⟨sl, rfl⟩
  rw [hlb] at hlast
  obtain rfl : sl = nameStep nm := by cases nm <;> cases (hlast : StepRel _ _ sl) <;> rfl
  obtain ⟨q, x, rfl, _⟩ := last_name_results nm sb.toList hlb (.root j) m' (List.mem_of_mem_head? hhead)
  cases hrel with
  | child hpq hab =>
    cases hpar
    exact absurd ((hgen.2 : childAt (hview h _) nm = _).symm.trans hnone) nofun

end Treepath
