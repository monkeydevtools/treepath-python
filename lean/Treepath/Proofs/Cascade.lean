import Treepath.Proofs.RefoldOps
import Treepath.Proofs.RefoldInv
import Treepath.Proofs.RoundTrip
import Treepath.Proofs.HeapSearch
/-
`set_(p, v, doc, cascade=True)` on a path of keys and indices: the store model refines the
function `J.cascadeAt` on the JSON tree (whose own algebra is in `TreeWriteLemmas`).
-/
namespace Treepath

theorem evalE_names : ∀ (names : List Name) (n : MNode J),
    (∀ d, walk J.view n.data names = some d →
      ∃ m, evalE (names.map nameStep) n = ([m], none) ∧ m.loc = n.loc ++ names ∧ m.data = d) ∧
    (walk J.view n.data names = none → evalE (names.map nameStep) n = ([], none))
  | [], n => by simp [walk, evalE]
  | nm :: rest, n => by
    rw [List.map_cons, evalE_cons_bind (by cases nm <;> rfl), evalStep_nameStep]
    simp only [walk]
    cases hc : childAt (J.view n.data) nm with
    | none => exact ⟨nofun, fun _ => rfl⟩
    | some c =>
      simp only [Option.map_some, Option.toList_some, bindRes_pure]
      obtain ⟨ih1, ih2⟩ := evalE_names rest (.child n nm c)
      refine ⟨fun d hw => ?_, ih2⟩
      obtain ⟨m, e1, e2, e3⟩ := ih1 d hw
      exact ⟨m, e1, by simp [e2, MNode.loc], e3⟩

theorem nameSteps_rel (h : Heap) : ∀ (names : List Name),
    LRel (StepRel (Unf h)) (names.map nameStepV) (names.map nameStep)
  | [] => .nil
  | nm :: rest => by
    cases nm with
    | key k => exact .cons (.key k) (nameSteps_rel h rest)
    | idx i => exact .cons (.idx i) (nameSteps_rel h rest)

theorem nameSteps_clean (names : List Name) : PredsClean (names.map nameStep).toArray := by
  intro s hs f hf
  simp only [List.mem_map] at hs
  obtain ⟨nm, _, rfl⟩ := hs
  cases nm <;> simp [nameStep] at hf

theorem getMatch_names_found (h : Heap) (root : Val) (j : J) (names : List Name) (pm : MNode Val) (hu : UnfJ h j root)
    (hg : getMatch (wcx h) (names.map nameStepV).toArray (.doc root) true = .ok (some pm)) :
    pm.loc = names ∧ ∃ d, walk J.view j names = some d := by
  obtain ⟨pm', hrel, hhead⟩ := getMatch_heap_found h root j hu (names.map nameStepV).toArray (names.map nameStep).toArray
    (by simpa using nameSteps_rel h names) (nameSteps_clean names) true pm hg
  obtain ⟨e1, e2⟩ := evalE_names names (.root j)
  cases hw : walk J.view j names with
  | none =>
    have := e2 (by simpa [MNode.data] using hw)
    rw [this] at hhead; simp at hhead
  | some d =>
    obtain ⟨m, q1, q2, _⟩ := e1 d (by simpa [MNode.data] using hw)
    rw [q1] at hhead
    simp only [List.head?_cons, Option.some.injEq] at hhead
    subst hhead
    exact ⟨by rw [hrel.loc, q2]; simp [MNode.loc], d, rfl⟩

theorem getMatch_names_notfound {h : Heap} {root : Val} {j : J} {names : List Name} (hu : UnfJ h j root)
    (hg : getMatch (wcx h) (names.map nameStepV).toArray (.doc root) true = .error .matchNotFound) :
    walk J.view j names = none := by
  have hev := getMatch_heap_notfound hu (names.map nameStepV).toArray (names.map nameStep).toArray
    (by simpa using nameSteps_rel h names) (nameSteps_clean names) (.inr hg)
  obtain ⟨e1, _⟩ := evalE_names names (.root j)
  cases hw : walk J.view j names with
  | none => rfl
  | some d =>
    obtain ⟨m, q1, _⟩ := e1 d (by simpa [MNode.data] using hw)
    rw [q1] at hev; simp at hev

/-- what a (cascading) assignment leaves behind: the document is the tree `j'` (`inv`), the match
returned holds `v` (`data`).  The other fields feed the induction over the path, where this
assignment is the recursive call and the value of the level above is still to be assigned: `walk`,
`loc` place the match (that value's parent); `frame` keeps the value unfolding as it did; `bound`
keeps it apart from the new document, whose objects are old or (`h.size ≤ x`) allocated since;
`size` carries that clause from store to store. -/
structure CascadeOut (root : Val) (h h' : Heap) (j j' jv : J) (v : Val) (m : MNode Val) (loc : List Name) : Prop where
  inv : DocInv h' root j'
  walk : walk (hview h') root m.loc = some m.data
  loc : m.loc = loc
  data : m.data = v
  bound : ∀ x ∈ fpJ h' j' root, x ∈ fpJ h j root ∨ x ∈ fpJ h jv v ∨ h.size ≤ x
  size : h.size ≤ h'.size
  frame : ∀ jw w, UnfJ h jw w → (∀ x ∈ fpJ h jw w, x ∉ fpJ h j root ∧ x ∉ fpJ h jv v) →
    UnfJ h' jw w ∧ fpJ h' jw w = fpJ h jw w

theorem vertexSet_out {root : Val} {h h' : Heap} {nm : Name} {pm m : MNode Val} {v : Val} {j jv : J}
    (hi : DocInv h root j) (hv : UnfJ h jv v) (hvn : (fpJ h jv v).Nodup) (hfresh : ∀ x ∈ fpJ h jv v, x ∉ fpJ h j root)
    (hloc : walk (hview h) root pm.loc = some pm.data)
    (hs : vertexSet h (nameStepV nm) pm v = .ok (h', m)) :
    ∃ j', J.setAt j pm.loc nm jv = some j' ∧ CascadeOut root h h' j j' jv v m (pm.loc ++ [nm]) := by
  obtain ⟨id, nm', o, hpd, e0, hw, rfl, rfl⟩ := vertexSet_ok hs
  obtain rfl := nameStepV_inj e0
  rw [hpd] at hloc
  obtain ⟨j', e2, e3, e4, e5⟩ := hw.on_tree hi.unf hi.sep hv hvn hfresh hloc
  have hag : ∀ x, x ≠ id → (hput h id o)[x]? = h[x]? := fun x hx => hput_other hx
  have hidroot := walk_mem_fp hi.unf hloc
  have hw' := walk_frame h _ id hag pm.loc root j hi.unf hi.sep hloc
  refine ⟨j', e2, ⟨⟨e3, e4, hw.wf hi.wf⟩, ?_, rfl, rfl, ?_, by rw [hput_size]; exact Nat.le_refl _, ?_⟩⟩
  · simp only [MNode.loc, MNode.data, walk_append, hw', Option.bind_some, walk]
    rw [hw.childAt]
  · intro x hx
    rcases e5 x hx with h1 | h1
    · exact .inl h1
    · exact .inr (.inl h1)
  · intro jw w huw hdis
    exact unf_frame_gen h _ id hag jw w huw (fun hm => (hdis id hm).1 hidroot)

/-- the container object `default_value_for_set` allocates in front of a name -/
def defObj : Name → Obj
  | .key _ => .dict []
  | .idx _ => .list []

theorem defaultValueFor_name (h : Heap) (nm : Name) :
    defaultValueFor h (nameStepV nm) = (h.push (defObj nm), .ref h.size) := by
  cases nm <;> rfl

theorem push_defObj {h : Heap} {root : Val} {j : J} (nm : Name) (hi : DocInv h root j) :
    DocInv (h.push (defObj nm)) root j ∧ UnfJ (h.push (defObj nm)) (emptyFor nm) (.ref h.size) ∧
    fpJ (h.push (defObj nm)) (emptyFor nm) (.ref h.size) = [h.size] ∧
    ∀ jw w, UnfJ h jw w → UnfJ (h.push (defObj nm)) jw w ∧ fpJ (h.push (defObj nm)) jw w = fpJ h jw w := by
  have hcong : ∀ jw w, UnfJ h jw w → _ := fun jw w hu => unf_congr (h.push (defObj nm)) hu fun x _ => ext_push _ _ x
  refine ⟨⟨(hcong j root hi.unf).1, by rw [(hcong j root hi.unf).2]; exact hi.sep,
    heapwf_push hi.wf _ (fun es he => by cases nm <;> simp [defObj] at he; subst he; simp)⟩, ?_, ?_, hcong⟩
  · cases nm <;> simp [emptyFor, defObj, UnfJ, UnfKvsJ, UnfListJ]
  · cases nm <;> simp [emptyFor, defObj, fpJ, fpKvs, fpList]

/-- a missing level: the container allocated for it has been assigned along the parent path
(`out1`, which speaks of the store that already has the container), then `v` is assigned in it -/
theorem cascadeOut_missing {root : Val} {h h2 h3 : Heap} {nm : Name} {pm m : MNode Val} {v : Val} {j j1 jv : J}
    {loc : List Name} (hi : DocInv h root j) (hv : UnfJ h jv v) (hvn : (fpJ h jv v).Nodup)
    (hfresh : ∀ x ∈ fpJ h jv v, x ∉ fpJ h j root)
    (out1 : CascadeOut root (h.push (defObj nm)) h2 j j1 (emptyFor nm) (.ref h.size) pm loc)
    (hvs : vertexSet h2 (nameStepV nm) pm v = .ok (h3, m)) :
    ∃ j', J.setAt j1 loc nm jv = some j' ∧ CascadeOut root h h3 j j' jv v m (loc ++ [nm]) := by
  obtain ⟨_, _, hdvf, hpush⟩ := push_defObj nm hi
  have hfpr := (hpush j root hi.unf).2
  have hsz1 := out1.size
  simp only [Array.size_push] at hsz1
  -- a value that unfolded in `h` apart from the document: allocation and recursive call leave it
  -- as it is, and apart from the document `j1` they leave (objects of `j` or new ones)
  have hold : ∀ jw w, UnfJ h jw w → (∀ x ∈ fpJ h jw w, x ∉ fpJ h j root) →
      (UnfJ h2 jw w ∧ fpJ h2 jw w = fpJ h jw w) ∧ ∀ x ∈ fpJ h jw w, x ∉ fpJ h2 j1 root := by
    intro jw w huw hdis
    have hwlt := fp_lt huw
    obtain ⟨hw1, hfw1⟩ := hpush jw w huw
    refine ⟨?_, fun x hx hm => ?_⟩
    · rw [← hfw1]
      refine out1.frame jw w hw1 fun x hx => ?_
      rw [hfw1] at hx
      rw [hfpr, hdvf]
      exact ⟨hdis x hx, by simpa using Nat.ne_of_lt (hwlt x hx)⟩
    · have := hwlt x hx
      rcases out1.bound x hm with b | b | b
      · rw [hfpr] at b; exact hdis x hx b
      · rw [hdvf] at b; exact Nat.ne_of_lt this (List.mem_singleton.mp b)
      · rw [Array.size_push] at b; exact Nat.lt_asymm this b
  obtain ⟨⟨hv2, hfv2⟩, hfresh2⟩ := hold jv v hv hfresh
  obtain ⟨j', e1, out⟩ := vertexSet_out out1.inv hv2 (by rw [hfv2]; exact hvn)
    (by rw [hfv2]; exact hfresh2) out1.walk hvs
  have hsz2 := out.size
  rw [out1.loc] at e1 out
  refine ⟨j', e1, ⟨out.inv, out.walk, out.loc, out.data, ?_, Nat.le_trans (Nat.le_of_succ_le hsz1) hsz2, ?_⟩⟩
  · intro x hx
    rcases out.bound x hx with b | b | b
    · rcases out1.bound x b with b1 | b1 | b1
      · rw [hfpr] at b1; exact .inl b1
      · rw [hdvf] at b1; exact .inr (.inr (Nat.le_of_eq (List.mem_singleton.mp b1).symm))
      · rw [Array.size_push] at b1; exact .inr (.inr (Nat.le_of_succ_le b1))
    · rw [hfv2] at b; exact .inr (.inl b)
    · exact .inr (.inr (Nat.le_trans (Nat.le_of_succ_le hsz1) b))
  · intro jw w huw hdis
    obtain ⟨⟨hw2, hfw2⟩, hapart⟩ := hold jw w huw fun x hx => (hdis x hx).1
    rw [← hfw2]
    refine out.frame jw w hw2 fun x hx => ?_
    rw [hfw2] at hx
    rw [hfv2]
    exact ⟨hapart x hx, (hdis x hx).2⟩

theorem cascade_refines (root : Val) (names : List Name) : ∀ (n : Nat) (h h' : Heap) (v : Val) (m : MNode Val) (j jv : J),
    n ≤ names.length → DocInv h root j → UnfJ h jv v → (fpJ h jv v).Nodup → (∀ x ∈ fpJ h jv v, x ∉ fpJ h j root) →
    setMatchN (fun _ => names.map nameStepV) (.doc root) true n h v = (h', .ok m) →
    ∃ j', J.cascadeAt j (names.take n) jv = some j' ∧ CascadeOut root h h' j j' jv v m (names.take n) := by
  intro n h h' v m j jv hn hi hv hvn hfresh hset
  generalize true = c at hset
  -- cases as in `setMatchN_ok`: two end well, 3 and 6
  fun_induction setMatchN (fun _ => names.map nameStepV) (.doc root) c n h v generalizing h' m j jv with
  | case3 _ n h v last hlast pm hg h2 m2 hvs =>
    cases hset
    obtain ⟨nm, hnm, rfl⟩ := Option.map_eq_some_iff.mp (List.getElem?_map ▸ hlast)
    rw [← List.map_take] at hg
    rw [take_succ_of_get names n nm hnm]
    -- where the parent is: in the tree, its location is the path and the tree has it; in the store, a
    -- genuine match's location leads to its value
    obtain ⟨hploc, d, hwj⟩ := getMatch_names_found h root j (names.take n) pm hi.unf hg
    have hw := gen_walk (hview h) root pm (getMatch_gen (wcx h) (heapwf_keysUniq hi.wf) _ root true pm hg)
    obtain ⟨j', e1, out⟩ := vertexSet_out hi hv hvn hfresh hw hvs
    rw [hploc] at e1 out
    exact ⟨j', by rw [cascade_snoc_found (names.take n) j nm jv d hwj]; exact e1, out⟩
  | case6 n h v last hlast e hg hnf h1 dv hdv h2 pm hrec h3 m3 hvs ih =>
    cases hset
    obtain ⟨nm, hnm, rfl⟩ := Option.map_eq_some_iff.mp (List.getElem?_map ▸ hlast)
    obtain rfl : e = .matchNotFound := by
      cases e with
      | matchNotFound => rfl
      | nestedMatchNotFound => exact absurd hg getMatch_doc_not_nested
      | _ => cases hnf
    rw [← List.map_take] at hg
    rw [take_succ_of_get names n nm hnm]
    -- the tree has no such location, so the parent path is not empty
    have hwj := getMatch_names_notfound hi.unf hg
    have hne : names.take n ≠ [] := fun he => by simp [he, walk] at hwj
    rw [defaultValueFor_name] at hdv
    cases hdv
    obtain ⟨hi1, hdvu, hdvf, hpush⟩ := push_defObj nm hi
    obtain ⟨j1, c1, out1⟩ := ih h2 pm j (emptyFor nm) (Nat.le_of_succ_le hn) hi1 hdvu (by simp [hdvf])
      (fun x hx hm => by
        rw [hdvf, List.mem_singleton] at hx
        rw [(hpush j root hi.unf).2, hx] at hm
        exact Nat.lt_irrefl _ (fp_lt hi.unf _ hm)) hrec
    obtain ⟨j', e1, out⟩ := cascadeOut_missing hi hv hvn hfresh out1 hvs
    exact ⟨j', by rw [cascade_snoc_missing (names.take n) j nm jv hne hwj, c1]; exact e1, out⟩
  | case1 | case2 | case4 | case5 | case7 | case8 | case9 | case10 => cases hset

end Treepath
