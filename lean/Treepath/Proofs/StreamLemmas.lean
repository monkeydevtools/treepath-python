import Treepath.Proofs.StepLemmas
/- structure of documents and of the specification stream: unique keys, sizes and tree induction
in item form, the item form of the pre-order listing and of the recursive step's events,
induction along `stream` with one named case per form of the first step -/
namespace Treepath

/- dict keys are unique, at every depth -/
mutual
def J.WFK : J → Prop
  | .obj kvs => (kvs.map Prod.fst).Nodup ∧ J.WFKvs kvs
  | .arr xs => J.WFList xs
  | _ => True
def J.WFKvs : List (String × J) → Prop
  | [] => True
  | (_, x) :: kvs => J.WFK x ∧ J.WFKvs kvs
def J.WFList : List J → Prop
  | [] => True
  | x :: xs => J.WFK x ∧ J.WFList xs
end

/-- an object without duplicate keys, as Python dicts are (any other value qualifies) -/
def J.KeysNodup : J → Prop
  | .obj es => (es.map Prod.fst).Nodup
  | _ => True

mutual
def J.sz : J → Nat
  | .arr xs => 1 + J.szList xs
  | .obj kvs => 1 + J.szKvs kvs
  | _ => 1
def J.szList : List J → Nat
  | [] => 0
  | x :: xs => J.sz x + J.szList xs
def J.szKvs : List (String × J) → Nat
  | [] => 0
  | (_, x) :: kvs => J.sz x + J.szKvs kvs
end

def preItems (n : MNode J) (its : List (Name × J)) : List (MNode J) :=
  its.flatMap fun it => preNodes (.child n it.1 it.2) it.2

theorem preKvs_eq (n : MNode J) (kvs : List (String × J)) : preKvs n kvs = preItems n (dictItems kvs) := by
  induction kvs with
  | nil => simp [preKvs, preItems, dictItems]
  | cons kv kvs ih =>
    obtain ⟨k, v⟩ := kv
    simp only [preKvs, ih, preItems, dictItems, List.map_cons, List.flatMap_cons]

theorem preXs_eq (n : MNode J) (i : Nat) (xs : List J) :
    preXs n i xs = preItems n ((enumFrom i xs).map fun p => (Name.idx p.1, p.2)) := by
  induction xs generalizing i with
  | nil => simp [preXs, preItems, enumFrom]
  | cons x xs ih => simp only [preXs, ih, preItems, enumFrom, List.map_cons, List.flatMap_cons]

theorem preNodes_container {n : MNode J} {j : J} {its : List (Name × J)} (h : allItems j.view = some its) :
    preNodes n j = n :: preItems n its := by
  cases j with
  | arr xs => cases h; rw [preNodes, preXs_eq]; rfl
  | obj kvs => cases h; rw [preNodes, preKvs_eq]
  | _ => cases h

theorem preNodes_scalar {n : MNode J} {j : J} (h : allItems j.view = none) : preNodes n j = [n] := by
  cases j with
  | arr | obj => cases h
  | _ => rfl

def recItems (k : MNode J → List (Ev J)) (last : Bool) (vi : Nat) (n : MNode J) (its : List (Name × J)) : List (Ev J) :=
  its.flatMap fun it => recChild k last vi n it.1 it.2

theorem recKvs_eq (k : MNode J → List (Ev J)) (last : Bool) (vi : Nat) (n : MNode J) (kvs : List (String × J)) :
    recKvs k last vi n kvs = recItems k last vi n (dictItems kvs) := by
  induction kvs with
  | nil => simp [recKvs, recItems, dictItems]
  | cons kv kvs ih =>
    obtain ⟨key, v⟩ := kv
    simp only [recKvs, ih, recItems, dictItems, List.map_cons, List.flatMap_cons]

theorem recXs_eq (k : MNode J → List (Ev J)) (last : Bool) (vi : Nat) (n : MNode J) (i : Nat) (xs : List J) :
    recXs k last vi n i xs = recItems k last vi n ((enumFrom i xs).map fun p => (Name.idx p.1, p.2)) := by
  induction xs generalizing i with
  | nil => simp [recXs, recItems, enumFrom]
  | cons x xs ih =>
    simp only [recXs, ih, recItems, enumFrom, List.map_cons, List.flatMap_cons]

theorem recBody_items {k : MNode J → List (Ev J)} {last : Bool} {vi : Nat} {m : MNode J} {j : J}
    {its : List (Name × J)} (h : allItems j.view = some its) :
    recBody k last vi m j = k (.imag m) ++ recItems k last vi m its ++ [.attempt m (vi+1) none none] := by
  cases j with
  | arr xs => cases h; rw [recBody, recXs_eq]; rfl
  | obj kvs => cases h; rw [recBody, recKvs_eq]
  | _ => cases h

theorem recChild_scalar {k : MNode J → List (Ev J)} {last : Bool} {vi : Nat} {n : MNode J} {nm : Name} {x : J}
    (h : allItems x.view = none) :
    recChild k last vi n nm x = .attempt n (vi+1) (some (.child n nm x)) none
      :: (if last then [.result (.child n nm x)] else [.attempt (.child n nm x) (vi+1) none none]) := by
  cases x with
  | arr | obj => cases h
  | _ => rfl

theorem allItems_isContainer (j : J) : (allItems j.view).isSome = j.isContainer := by
  cases j <;> rfl

theorem J.items_induction {C : J → Prop} (scalar : ∀ x, allItems x.view = none → C x)
    (container : ∀ x its, allItems x.view = some its → (∀ it ∈ its, C it.2) → C x) : (x : J) → C x
  | .arr xs => container (.arr xs) _ rfl fun it hit => list xs it.2 (allItems_value (.list xs) _ rfl it hit)
  | .obj kvs => container (.obj kvs) _ rfl fun it hit => members kvs it.2 (allItems_value (.dict kvs) _ rfl it hit)
  | .null => scalar _ rfl
  | .bool _ => scalar _ rfl
  | .int _ => scalar _ rfl
  | .half _ => scalar _ rfl
  | .str _ => scalar _ rfl
where
  list : (xs : List J) → ∀ y ∈ xs, C y
    | [], _, h => nomatch h
    | x :: xs, y, h => (List.mem_cons.mp h).elim (fun e => e ▸ J.items_induction scalar container x) (list xs y)
  members : (kvs : List (String × J)) → ∀ y ∈ kvs.map Prod.snd, C y
    | [], _, h => nomatch h
    | (_, x) :: kvs, y, h => (List.mem_cons.mp h).elim (fun e => e ▸ J.items_induction scalar container x) (members kvs y)

theorem allItems_none_iff (j : J) : allItems j.view = none ↔ j.isContainer = false := by
  rw [← allItems_isContainer, Option.isSome_eq_false_iff, Option.isNone_iff_eq_none]

theorem recChild_body {k : MNode J → List (Ev J)} {last : Bool} {vi : Nat} {n : MNode J} {nm : Name} {x : J}
    (h : x.isContainer = true) :
    recChild k last vi n nm x =
      .attempt n (vi+1) (some (.imag (.child n nm x))) none :: recBody k last vi (.child n nm x) x := by
  cases x <;> simp [J.isContainer] at h <;> rfl

theorem recChild_container {k : MNode J → List (Ev J)} {last : Bool} {vi : Nat} {n : MNode J} {nm : Name} {x : J}
    {its : List (Name × J)} (h : allItems x.view = some its) :
    recChild k last vi n nm x = .attempt n (vi+1) (some (.imag (.child n nm x))) none
      :: (k (.imag (.child n nm x)) ++ recItems k last vi (.child n nm x) its ++ [.attempt (.child n nm x) (vi+1) none none]) := by
  rw [recChild_body (by rw [← allItems_isContainer, h]; rfl), recBody_items h]

/-- Induction along `stream` (`induction p, vi, n using stream_induction`).  Every case but `nil`
hands over the stream of `s :: rest` at `n` as an equation and the hypothesis at each node the step
reaches: `miss` / `hit` for a key, index or parent step, `filter`, `wrongKind` / `valueError` /
`items` for a wildcard, slice or comma list, `recur` / `recurScalar` for `..` on a container /
scalar.  Trap: `stream` shares `evalStep`'s matchers, and `stream.induct_unfolding` here and a
`split` on `evalStep` elsewhere each generate the matchers' congruence lemmas on demand; two
modules that do so side by side (neither importing the other) cannot be imported together, so
every module that splits on `evalStep` is upstream or downstream of this one. -/
theorem stream_induction {motive : List (Step J) → Nat → MNode J → Prop}
    (nil : ∀ vi n, motive [] vi n)
    (miss : ∀ s rest vi n, s.cls = .single → singleOf J.view s n = none →
      stream (s :: rest) vi n = [.attempt n (vi+1) none none] → motive (s :: rest) vi n)
    (hit : ∀ s rest vi n n', s.cls = .single → singleOf J.view s n = some n' →
      stream (s :: rest) vi n = .attempt n (vi+1) (some n') none :: stream rest (vi+1) n' →
      motive rest (vi+1) n' → motive (s :: rest) vi n)
    (filter : ∀ f rest vi n,
      stream (.filter f :: rest) vi n = .predCall n :: (f n).evs ++
        (match (f n).res with
         | .val j =>
           if j.truthy then .attempt n (vi+1) (some (.imag n)) none :: stream rest (vi+1) (.imag n)
           else [.attempt n (vi+1) none none]
         | .raise e => [.raised (.traversing e)]) →
      motive rest (vi+1) (.imag n) → motive (.filter f :: rest) vi n)
    (wrongKind : ∀ s rest vi n, s.cls = .multi → itemsOf s n.data.view = .wrongKind →
      stream (s :: rest) vi n = [.attempt n (vi+1) none none] → motive (s :: rest) vi n)
    (valueError : ∀ s rest vi n, s.cls = .multi → itemsOf s n.data.view = .valueError →
      stream (s :: rest) vi n = [.raised (.user "ValueError")] → motive (s :: rest) vi n)
    (items : ∀ s rest vi n its, s.cls = .multi → itemsOf s n.data.view = .ok its →
      stream (s :: rest) vi n =
        (its.flatMap fun it => .attempt n (vi+1) (some (.child n it.1 it.2)) none :: stream rest (vi+1) (.child n it.1 it.2))
          ++ [.attempt n (vi+1) none none] →
      (∀ nm x, motive rest (vi+1) (.child n nm x)) → motive (s :: rest) vi n)
    (recur : ∀ rest vi n, n.data.isContainer = true →
      stream (.recur :: rest) vi n = .attempt n (vi+1) (some (.imag n)) none ::
        recBody (fun m => stream rest (vi+1) m) rest.isEmpty vi n n.data →
      (∀ m, motive rest (vi+1) m) → motive (.recur :: rest) vi n)
    (recurScalar : ∀ rest vi n, n.data.isContainer = false →
      stream (.recur :: rest) vi n = [.attempt n (vi+1) none none] → motive (.recur :: rest) vi n)
    (p : List (Step J)) (vi : Nat) (n : MNode J) : motive p vi n := by
  refine stream.induct_unfolding (motive := fun p vi n evs => stream p vi n = evs → motive p vi n)
    (fun vi n _ => nil vi n)
    (fun s rest vi n hc hso he => miss s rest vi n hc hso he)
    (fun s rest vi n hc n' hso ih he => hit s rest vi n n' hc hso he (ih rfl))
    (fun rest vi n f _ ih he => filter f rest vi n he (ih rfl))
    (fun s rest vi n hc hnf _ => ?_)
    (fun s rest vi n hc hio he => wrongKind s rest vi n hc hio he)
    (fun s rest vi n hc hio he => valueError s rest vi n hc hio he)
    (fun s rest vi n hc its hio ih he => items s rest vi n its hc hio he fun nm x => ih nm x rfl)
    (fun s rest vi n hc hcont ih he => ?_)
    (fun s rest vi n hc hcont he => ?_) p vi n rfl
  · obtain ⟨f, rfl⟩ := Step.eq_filter_of_cls hc
    exact absurd rfl (hnf f)
  · obtain rfl := Step.eq_recur_of_cls hc
    exact recur rest vi n hcont he fun m => ih m rfl
  · obtain rfl := Step.eq_recur_of_cls hc
    exact recurScalar rest vi n (Bool.not_eq_true _ ▸ hcont) he

end Treepath
