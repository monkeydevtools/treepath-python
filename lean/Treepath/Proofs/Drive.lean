import Treepath.Proofs.Bisim
import Treepath.Proofs.Sim
import Treepath.Proofs.EventLemmas
import Treepath.Model.Api
/-
From single actions to the iterator protocol: runs of actions (`hrun`) and how two runs from
one state compare; a `next()` that yields is a segment of the action run ending at the next
result / `StopIteration` (`next_segment`); successful calls strung together (`Yields`) form one
run; the whole run of a fresh iterator over a quiet path emits the stream (`full_run`).
-/
namespace Treepath
variable {α : Type}

section
variable (view : α → View α) (steps : Array (Step α)) (src : Src α)

def hrun : Nat → St α → St α × List (Ev α)
  | 0, s => (s, [])
  | k+1, s =>
    let r := action view steps src s
    let r' := hrun k r.1
    (r'.1, r.2.1 ++ r'.2)

theorem hrun_add (a b : Nat) (s : St α) :
    hrun view steps src (a + b) s =
      ((hrun view steps src b (hrun view steps src a s).1).1,
       (hrun view steps src a s).2 ++ (hrun view steps src b (hrun view steps src a s).1).2) := by
  induction a generalizing s with
  | zero => rw [Nat.zero_add]; rfl
  | succ a ih => rw [Nat.add_right_comm]; simp only [hrun, ih, List.append_assoc]

theorem hrun_bisim (k : Nat) (st : St α) (as : AS α) (hR : R steps st as) :
    R steps (hrun view steps src k st).1 (arun view steps src k as).1 ∧
    (hrun view steps src k st).2 = (arun view steps src k as).2 := by
  induction k generalizing st as with
  | zero => exact ⟨hR, rfl⟩
  | succ k ih =>
    obtain ⟨h1, h2⟩ := bisim steps view src st as hR
    obtain ⟨h3, h4⟩ := ih _ _ h1
    simp only [hrun, arun]
    refine ⟨h3, ?_⟩
    rw [h4]
    have : (action view steps src st).2.1 = (astep view steps src as).2.1 := by rw [h2]
    rw [this]

theorem hrun_stuck {view : α → View α} {steps : Array (Step α)} {src : Src α} {st : St α} {evs : List (Ev α)} {sig : Sig α}
    (h : action view steps src st = (st, evs, sig))
    (m : Nat) : hrun view steps src m st = (st, (List.replicate m evs).flatten) := by
  induction m with
  | zero => rfl
  | succ m ih => simp [hrun, h, ih, List.replicate_succ]

/-- two runs from the same state, one of them ending in a state that its action leaves as it
is: the other is an initial part of it, or has gone on repeating that action -/
theorem hrun_cmp {view : α → View α} {steps : Array (Step α)} {src : Src α}
    {st stF st' : St α} {k j : Nat} {X E evsF : List (Ev α)} {sigF : Sig α}
    (hk : hrun view steps src k st = (stF, X)) (hF : action view steps src stF = (stF, evsF, sigF))
    (hj : hrun view steps src j st = (st', E)) :
    (∃ Y, X = E ++ Y ∧ hrun view steps src (k - j) st' = (stF, Y)) ∨
    (st' = stF ∧ ∃ m, E = X ++ evsF ++ (List.replicate m evsF).flatten) := by
  by_cases hle : j ≤ k
  · obtain ⟨d, rfl⟩ := Nat.exists_eq_add_of_le hle
    rw [hrun_add, hj] at hk
    obtain ⟨rfl, rfl⟩ := Prod.mk.inj hk
    exact .inl ⟨_, rfl, by rw [Nat.add_sub_cancel_left]⟩
  · obtain ⟨d, rfl⟩ := Nat.exists_eq_add_of_lt (Nat.lt_of_not_le hle)
    rw [Nat.add_assoc, hrun_add, hk, hrun_stuck hF] at hj
    obtain ⟨rfl, rfl⟩ := Prod.mk.inj hj
    exact .inr ⟨rfl, d, by rw [List.replicate_succ, List.flatten_cons, List.append_assoc]⟩

theorem action_events {view : α → View α} {steps : Array (Step α)} {src : Src α} (hp : PredsClean steps)
    {st s1 : St α} {e1 : List (Ev α)} {sig : Sig α}
    (h : action view steps src st = (s1, e1, sig)) :
    (sig = .none → ∀ e ∈ e1, e.isClean = true) ∧ (∀ n, sig = .result n → e1 = [.result n]) ∧
    (sig = .stop → e1 = [.stop]) := by
  cases action_cases h with
  | attempt s _ _ _ pre nx hs hpre =>
    refine ⟨fun _ e he => ?_, nofun, nofun⟩
    rcases List.mem_append.mp he with he | he
    · exact hpre.clean hp hs e he
    · rw [List.mem_singleton.mp he]; rfl
  | raises | bug => exact ⟨nofun, nofun, nofun⟩
  | done => exact ⟨nofun, nofun, fun _ => rfl⟩
  | result s1 n => exact ⟨nofun, fun m h => by cases h; rfl, nofun⟩
  | silent => exact ⟨fun _ _ h => (nomatch h), nofun, nofun⟩

variable {view steps src}

theorem Silent.hrun {st s1 : St α} {pre : List (Ev α)} (h : Silent view steps src st pre s1) :
    ∃ j, hrun view steps src j st = (s1, pre) := by
  induction h with
  | nil st => exact ⟨0, rfl⟩
  | cons ha _ ih => obtain ⟨j, hj⟩ := ih; exact ⟨j + 1, by simp only [Treepath.hrun, ha, hj]⟩

theorem Silent.clean (hp : PredsClean steps) {st s1 : St α} {pre : List (Ev α)}
    (h : Silent view steps src st pre s1) : ∀ e ∈ pre, e.isClean = true := by
  induction h with
  | nil st => simp
  | cons ha _ ih =>
    intro e he
    rcases List.mem_append.mp he with he | he
    · exact (action_events hp ha).1 rfl e he
    · exact ih e he

variable (view steps src)

/-- **segmentation**: a `next()` that yields a result / `StopIteration` is a run of actions
whose events are clean up to that final result / `stop` -/
theorem next_segment (hp : PredsClean steps) (limit : Nat) (st st' : St α) (evs : List (Ev α)) (sig : Sig α)
    (h : next view steps src limit st = (st', evs, sig))
    (hsig : (∃ n, sig = .result n) ∨ sig = .stop) :
    ∃ j pre last, hrun view steps src j st = (st', evs) ∧ evs = pre ++ [last] ∧ (∀ e ∈ pre, e.isClean = true) ∧
      ((∃ n, sig = .result n ∧ last = .result n) ∨ (sig = .stop ∧ last = .stop)) := by
  rcases next_cases h with hl | ⟨s1, pre, aevs, hsil, ha, rfl, _⟩
  · rcases hsig with ⟨n, hn⟩ | hn <;> rw [hn] at hl <;> cases hl
  obtain ⟨j, hj⟩ := hsil.hrun
  obtain ⟨_, hres, hstop⟩ := action_events hp ha
  have hrun1 : hrun view steps src (j + 1) st = (st', pre ++ aevs) := by
    rw [hrun_add, hj]; simp [hrun, ha]
  rcases hsig with ⟨n, rfl⟩ | rfl
  · exact ⟨j + 1, pre, .result n, hrun1, by rw [hres n rfl], hsil.clean hp, .inl ⟨n, rfl, rfl⟩⟩
  · exact ⟨j + 1, pre, .stop, hrun1, by rw [hstop rfl], hsil.clean hp, .inr ⟨rfl, rfl⟩⟩

/-- successful calls of `next()` in a row: the results yielded, all events, the final state -/
inductive Yields (limit : Nat) : St α → List (MNode α) → List (Ev α) → St α → Prop where
  | nil (st : St α) : Yields limit st [] [] st
  | cons (st st1 st2 : St α) (evs : List (Ev α)) (n : MNode α) (rs : List (MNode α)) (E : List (Ev α)) :
      next view steps src limit st = (st1, evs, .result n) → Yields limit st1 rs E st2 →
      Yields limit st (n :: rs) (evs ++ E) st2

theorem yields_run {view : α → View α} {steps : Array (Step α)} {src : Src α} (hp : PredsClean steps)
    {limit : Nat} {st st' : St α} {rs : List (MNode α)} {E : List (Ev α)}
    (hy : Yields view steps src limit st rs E st') :
    ∃ j, hrun view steps src j st = (st', E) ∧ resultsOf E = rs ∧ .stop ∉ E ∧ firstRaise E = none := by
  induction hy with
  | nil st => exact ⟨0, rfl, rfl, by simp, rfl⟩
  | cons st st1 st2 evs n rs E hn _ ih =>
    obtain ⟨j2, h2, hr2, hs2, hn2⟩ := ih
    obtain ⟨j1, pre, last, h1, rfl, hcl, hl⟩ := next_segment view steps src hp limit st st1 evs _ hn (.inl ⟨n, rfl⟩)
    obtain rfl : last = .result n := by
      rcases hl with ⟨m, hm, hl⟩ | ⟨hm, _⟩
      · cases hm; exact hl
      · cases hm
    refine ⟨j1 + j2, by rw [hrun_add, h1, h2], ?_, ?_, ?_⟩
    · simp [resultsOf_clean pre hcl, hr2]
    · intro he
      rcases List.mem_append.mp he with he | he
      · rcases List.mem_append.mp he with he | he
        · simpa [Ev.isClean] using hcl _ he
        · simp at he
      · exact hs2 he
    · rw [firstRaise_append, firstRaise_append, firstRaise_clean pre hcl]
      exact hn2

theorem R_done_act {st : St α} (h : R steps st .done) : st.act = .done := by
  cases h with
  | done hact => exact hact

end

section
variable (steps : Array (Step J)) (src : Src J)

theorem Yields.snoc {limit : Nat} {st st' st'' : St J} {rs : List (MNode J)} {E evs : List (Ev J)} {n : MNode J}
    (hy : Yields J.view steps src limit st rs E st')
    (hn : next J.view steps src limit st' = (st'', evs, .result n)) :
    Yields J.view steps src limit st (rs ++ [n]) (E ++ evs) st'' := by
  induction hy with
  | nil st => simpa using Yields.cons _ _ _ _ _ _ _ hn (.nil _)
  | cons st st1 st2 evs0 m rs E h1 _ ih => simpa [List.append_assoc] using Yields.cons _ _ _ _ _ _ _ h1 (ih hn)

/-- the whole action run of a fresh iterator over a quiet path emits exactly the
specification's stream and ends exhausted -/
theorem full_run (hq : Quiet steps.toList) :
    ∃ k stD, hrun J.view steps src (1 + k) freshIter = (stD, stream steps.toList 0 src.rootNode) ∧ stD.act = .done := by
  obtain ⟨k, hk⟩ := sim steps src steps.toList [] src.rootNode [] (by simp) hq
  have harun : arun J.view steps src (1 + k) .init = (.done, stream steps.toList 0 src.rootNode) := by
    rw [arun_add, arun_one]
    exact hk
  obtain ⟨hR, hev⟩ := hrun_bisim J.view steps src (1 + k) freshIter .init (.init _ rfl)
  rw [harun] at hR hev
  exact ⟨k, _, Prod.ext rfl hev, R_done_act steps hR⟩

end
end Treepath
