import Treepath.Proofs.SimX
import Treepath.Proofs.Drive
import Treepath.Proofs.StreamExc
/-
End to end without the `Quiet` premise: for every path (predicates may raise, slices may have
a zero step), what a fresh iterator does — results, `StopIteration`, the exception that comes
out of `next()` — is what the step-by-step definition `evalE` says, exception included.  The
statements for quiet paths are special cases.
-/
namespace Treepath

section
variable (steps : Array (Step J)) (src : Src J)

/-- **the whole run of a fresh iterator, exceptions included**: it emits the specification's
stream to the end and is exhausted, or emits it through its first raise and is stuck in the
action that raises -/
theorem full_run_x (hp : PredsClean steps) :
    (firstRaise (stream steps.toList 0 src.rootNode) = none ∧
      ∃ k stD, hrun J.view steps src k freshIter = (stD, stream steps.toList 0 src.rootNode) ∧ stD.act = .done) ∨
    (∃ e, firstRaise (stream steps.toList 0 src.rootNode) = some e ∧
      ∃ k stU evs', hrun J.view steps src k freshIter = (stU, takeThroughRaise (stream steps.toList 0 src.rootNode)) ∧
        action J.view steps src stU = (stU, evs', .raised e) ∧ firstRaise evs' = some e) := by
  have hinit : R steps (freshIter : St J) .init := .init _ rfl
  rcases simx_init steps src hp with ⟨hn, k, hk⟩ | ⟨e, hf, k, U, hk, evs', hU, hfe⟩
  · left
    obtain ⟨hR, hev⟩ := hrun_bisim J.view steps src k freshIter .init hinit
    rw [hk] at hR hev
    exact ⟨hn, k, _, Prod.ext rfl (by simpa using hev), R_done_act steps hR⟩
  · right
    obtain ⟨hR, hev⟩ := hrun_bisim J.view steps src k freshIter .init hinit
    rw [hk] at hR hev
    obtain ⟨_, hb⟩ := bisim steps J.view src _ U hR
    rw [hU] at hb
    rcases ha : action J.view steps src (hrun J.view steps src k freshIter).1 with ⟨s1, e1, sg⟩
    rw [ha] at hb
    simp only [Prod.mk.injEq] at hb
    obtain ⟨rfl, rfl⟩ := hb
    have hs := action_raised_state J.view steps src _ s1 e1 e ha
    subst hs
    exact ⟨e, hf, k, _, e1, Prod.ext rfl (by simpa using hev), ha, hfe⟩

theorem hrun_fix {st s1 s2 : St J} {k j : Nat} {X Y e1 e2 : List (Ev J)} {g1 g2 : Sig J}
    (hk : hrun J.view steps src k st = (s1, X)) (h1 : action J.view steps src s1 = (s1, e1, g1))
    (hj : hrun J.view steps src j st = (s2, Y)) (h2 : action J.view steps src s2 = (s2, e2, g2)) :
    s2 = s1 ∧ ((∃ m, X = Y ++ (List.replicate m e1).flatten) ∨ ∃ m, Y = X ++ (List.replicate m e1).flatten) := by
  rcases hrun_cmp hk h1 hj with ⟨Y', hX, hrest⟩ | ⟨hs, m, hY⟩
  · rw [hrun_stuck h2] at hrest
    obtain ⟨rfl, rfl⟩ := Prod.mk.inj hrest
    rw [h1] at h2
    obtain ⟨rfl, _⟩ := Prod.mk.inj (Prod.mk.inj h2).2
    exact ⟨rfl, .inl ⟨_, hX⟩⟩
  · exact ⟨hs, .inr ⟨m + 1, by rw [hY, List.append_assoc]; simp [List.replicate_succ]⟩⟩

/-- **laziness, for every path**: everything the successful `next()` calls so far did — every
match attempt, every predicate call — is an initial part of the specification's stream through
its first raise -/
theorem yields_played (hp : PredsClean steps) (limit : Nat) (st' : St J) (rs : List (MNode J)) (E : List (Ev J))
    (hy : Yields J.view steps src limit freshIter rs E st') :
    ∃ E2, takeThroughRaise (stream steps.toList 0 src.rootNode) = E ++ E2 := by
  obtain ⟨j, hj, _, hns, hnr⟩ := yields_run hp hy
  rcases full_run_x steps src hp with ⟨hn, k, stD, hfull, hdone⟩ | ⟨e, hf, k, stU, evs', hfull, hact, hfe⟩
  · have hF := action_done J.view steps src hdone
    rw [ttr_noraise _ hn]
    rcases hrun_cmp hfull hF hj with ⟨Y, hY, _⟩ | ⟨_, m, hE⟩
    · exact ⟨Y, hY⟩
    · exact absurd (by rw [hE]; simp) hns
  · rcases hrun_cmp hfull hact hj with ⟨Y, hY, _⟩ | ⟨_, m, hE⟩
    · exact ⟨Y, hY⟩
    · rw [hE, List.append_assoc, firstRaise_append, firstRaise_ttr, hf] at hnr
      cases hnr

/-- **lazy prefix, for every path**: the results of successful `next()` calls are a prefix
of the results the definition produces before its first exception -/
theorem yields_prefix_x (hp : PredsClean steps) (limit : Nat) (st' : St J) (rs : List (MNode J)) (E : List (Ev J))
    (hy : Yields J.view steps src limit freshIter rs E st') :
    ∃ rest, (evalE steps.toList src.rootNode).1 = rs ++ rest := by
  obtain ⟨E2, hE⟩ := yields_played steps src hp limit st' rs E hy
  obtain ⟨_, _, hr, _⟩ := yields_run hp hy
  refine ⟨resultsOf E2, ?_⟩
  rw [← cut_stream steps.toList (by simpa using hp) 0 src.rootNode, ← hr, ← resultsOf_append, ← hE]
  rfl

/-- a call that ends the iteration — `StopIteration`, or an exception other than the loop
budget — ends in a state its last action leaves as it is; so does the whole run (`full_run_x`):
the same state, the same last action, and the runs differ by repetitions of it, which hold no result -/
theorem final_call (hp : PredsClean steps) (limit : Nat) (st' st'' : St J) (rs : List (MNode J))
    (E evs : List (Ev J)) (sig : Sig J)
    (hy : Yields J.view steps src limit freshIter rs E st')
    (hn : next J.view steps src limit st' = (st'', evs, sig))
    (hs : sig = .stop ∨ ∃ x, sig = .raised x ∧ x ≠ .loopDetected) :
    resultsOf (takeThroughRaise (stream steps.toList 0 src.rootNode)) = rs ∧
      ((sig = .stop ∧ firstRaise (stream steps.toList 0 src.rootNode) = none) ∨
       ∃ x, sig = .raised x ∧ firstRaise (stream steps.toList 0 src.rootNode) = some x) := by
  obtain ⟨j, hj, hr, _, _⟩ := yields_run hp hy
  rcases next_cases hn with hl | ⟨s1, pre, aevs, hsil, hact, _, _⟩
  · rcases hs with rfl | ⟨x, rfl, hx⟩
    · cases hl
    · cases hl; exact absurd rfl hx
  obtain ⟨rfl, ha⟩ : st'' = s1 ∧ resultsOf aevs = [] := by
    rcases hs with rfl | ⟨x, rfl, _⟩
    · obtain ⟨hd, rfl⟩ := action_stop hact
      rw [action_done _ _ _ hd] at hact
      cases hact
      exact ⟨rfl, rfl⟩
    · cases action_cases hact with
      | raises s _ _ _ hs hsh =>
        obtain ⟨A, rfl, hA⟩ := hsh.shape hp hs
        exact ⟨rfl, by rw [resultsOf_append, resultsOf_clean A hA]; rfl⟩
  obtain ⟨j1, hj1⟩ := hsil.hrun
  have hrun1 : hrun J.view steps src (j + j1) freshIter = (st'', E ++ pre) := by rw [hrun_add, hj, hj1]
  have hY : resultsOf (E ++ pre) = rs := by rw [resultsOf_append, hr, resultsOf_clean pre (hsil.clean hp), List.append_nil]
  have key : ∀ {k stF evsF sigF P}, hrun J.view steps src k freshIter = (stF, P) →
      action J.view steps src stF = (stF, evsF, sigF) → sig = sigF ∧ resultsOf P = rs := by
    intro k stF evsF sigF P hfull hF
    obtain ⟨rfl, hcmp⟩ := hrun_fix steps src hfull hF hrun1 hact
    rw [hact] at hF
    obtain ⟨rfl, rfl⟩ := Prod.mk.inj (Prod.mk.inj hF).2
    refine ⟨rfl, ?_⟩
    rcases hcmp with ⟨m, h⟩ | ⟨m, h⟩
    · rw [h, resultsOf_append, resultsOf_flatten_replicate ha, List.append_nil, hY]
    · rw [h, resultsOf_append, resultsOf_flatten_replicate ha, List.append_nil] at hY; exact hY
  rcases full_run_x steps src hp with ⟨hnr, k, stD, hfull, hdone⟩ | ⟨e, hf, k, stU, evs', hfull, hact', _⟩
  · obtain ⟨rfl, hres⟩ := key hfull (action_done J.view steps src hdone)
    exact ⟨by rw [ttr_noraise _ hnr]; exact hres, .inl ⟨rfl, hnr⟩⟩
  · obtain ⟨rfl, hres⟩ := key hfull hact'
    exact ⟨hres, .inr ⟨e, rfl, hf⟩⟩

/-- **exhaustion, for every path**: `StopIteration` means the definition finished without an
exception and everything it selects has been yielded -/
theorem exhausted_all_x (hp : PredsClean steps) (limit : Nat) (st' st'' : St J)
    (rs : List (MNode J)) (E evs : List (Ev J))
    (hy : Yields J.view steps src limit freshIter rs E st')
    (hstop : next J.view steps src limit st' = (st'', evs, .stop)) :
    evalE steps.toList src.rootNode = (rs, none) := by
  obtain ⟨h1, ⟨_, h2⟩ | ⟨x, hx, _⟩⟩ := final_call steps src hp limit st' st'' rs E evs _ hy hstop (.inl rfl)
  · rw [← cut_stream steps.toList (by simpa using hp) 0 src.rootNode, cut, h1, h2]
  · cases hx

/-- **the exception that comes out of `next()` is the definition's exception**: for every path,
if after any number of successful calls `next()` raises (anything but the loop budget), then
the step-by-step definition produces exactly the results yielded so far and then fails with
exactly that exception — it is never swallowed, never turned into a non-match, nothing is
yielded after it, and nothing the definition selects before it is missing -/
theorem raises_x (hp : PredsClean steps) (limit : Nat) (st' st'' : St J)
    (rs : List (MNode J)) (E evs : List (Ev J)) (x : Exc)
    (hy : Yields J.view steps src limit freshIter rs E st')
    (hraise : next J.view steps src limit st' = (st'', evs, .raised x)) (hx : x ≠ .loopDetected) :
    evalE steps.toList src.rootNode = (rs, some x) := by
  obtain ⟨h1, ⟨h, _⟩ | ⟨y, hy', h2⟩⟩ :=
    final_call steps src hp limit st' st'' rs E evs _ hy hraise (.inr ⟨x, rfl, hx⟩)
  · cases h
  · cases hy'
    rw [← cut_stream steps.toList (by simpa using hp) 0 src.rootNode, cut, h1, h2]

variable {steps src} in
theorem yields_next_result (hp : PredsClean steps) {limit : Nat} {st st' : St J} {rs rest : List (MNode J)}
    {E evs : List (Ev J)} {n : MNode J} {ex : Option Exc} (hy : Yields J.view steps src limit freshIter rs E st)
    (hn : next J.view steps src limit st = (st', evs, .result n))
    (hev : evalE steps.toList src.rootNode = (rs ++ rest, ex)) : ∃ rest', rest = n :: rest' := by
  obtain ⟨rest', hr'⟩ := yields_prefix_x steps src hp limit st' _ _ (Yields.snoc steps src hy hn)
  rw [hev, List.append_assoc] at hr'
  exact ⟨rest', List.append_cancel_left hr'⟩

variable {steps src} in
theorem yields_next_stop (hp : PredsClean steps) {limit : Nat} {st st' : St J} {rs rest : List (MNode J)}
    {E evs : List (Ev J)} {ex : Option Exc} (hy : Yields J.view steps src limit freshIter rs E st)
    (hn : next J.view steps src limit st = (st', evs, .stop))
    (hev : evalE steps.toList src.rootNode = (rs ++ rest, ex)) : rest = [] ∧ ex = none := by
  have := exhausted_all_x steps src hp limit st st' rs E evs hy hn
  rw [hev] at this
  obtain ⟨h1, h2⟩ := Prod.mk.inj this
  exact ⟨List.append_right_eq_self.mp h1, h2⟩

variable {steps src} in
theorem yields_next_raised (hp : PredsClean steps) {limit : Nat} {st st' : St J} {rs rest : List (MNode J)}
    {E evs : List (Ev J)} {e : Exc} {ex : Option Exc} (hy : Yields J.view steps src limit freshIter rs E st)
    (hn : next J.view steps src limit st = (st', evs, .raised e)) (he : e ≠ .loopDetected)
    (hev : evalE steps.toList src.rootNode = (rs ++ rest, ex)) : rest = [] ∧ ex = some e := by
  have := raises_x steps src hp limit st st' rs E evs e hy hn he
  rw [hev] at this
  obtain ⟨h1, h2⟩ := Prod.mk.inj this
  exact ⟨List.append_right_eq_self.mp h1, h2⟩

/-- **Lazy prefix**: the results yielded by any number of successful `next()` calls on a fresh
iterator are a prefix of the step-by-step definition's answer, in order -/
theorem yields_prefix (hq : Quiet steps.toList) (hp : PredsClean steps) (limit : Nat) (st' : St J)
    (rs : List (MNode J)) (E : List (Ev J))
    (hy : Yields J.view steps src limit freshIter rs E st') :
    ∃ rest, eval steps.toList src.rootNode = rs ++ rest :=
  yields_prefix_x steps src hp limit st' rs E hy

/-- **Laziness of the work done**: everything the successful `next()` calls so far did —
every match attempt, every user-predicate call — is a prefix of the specification's stream -/
theorem yields_stream_prefix (hq : Quiet steps.toList) (hp : PredsClean steps) (limit : Nat) (st' : St J)
    (rs : List (MNode J)) (E : List (Ev J))
    (hy : Yields J.view steps src limit freshIter rs E st') :
    ∃ E2, stream steps.toList 0 src.rootNode = E ++ E2 := by
  obtain ⟨E2, hE⟩ := yields_played steps src hp limit st' rs E hy
  obtain ⟨t, ht⟩ := ttr_prefix (stream steps.toList 0 src.rootNode)
  exact ⟨E2 ++ t, by rw [← List.append_assoc, ← hE, ht]⟩

/-- **Exhaustion**: when `next()` raises `StopIteration`, everything the definition selects
has been yielded, exactly once, in order -/
theorem exhausted_all (hq : Quiet steps.toList) (hp : PredsClean steps) (limit : Nat) (st' st'' : St J)
    (rs : List (MNode J)) (E evs : List (Ev J))
    (hy : Yields J.view steps src limit freshIter rs E st')
    (hstop : next J.view steps src limit st' = (st'', evs, .stop)) :
    rs = eval steps.toList src.rootNode := by
  rw [eval, exhausted_all_x steps src hp limit st' st'' rs E evs hy hstop]

end
end Treepath
