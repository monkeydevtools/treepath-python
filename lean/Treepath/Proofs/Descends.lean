import Treepath.Proofs.Invariant
import Treepath.Model.Mutate
/-
Every match a search yields *descends from the root match of that search* through the
derivation links (`child` / bookkeeping / parent-step nodes).  For a search started from a
`Match` this is what makes its results hang below that Match's own `TraverserMatch` objects:
the chain `m, m.parent, m.parent.parent, …` of a result ends in the chain of the start match.
-/
namespace Treepath
variable {α : Type}

inductive Desc (r : MNode α) : MNode α → Prop where
  | refl : Desc r r
  | child {p nm d} : Desc r p → Desc r (.child p nm d)
  | imag {p} : Desc r p → Desc r (.imag p)
  | par {rm f} : Desc r f → Desc r (.par rm f)

theorem desc_closed (view : α → View α) (src : Src α) : NodeClosed view src (Desc src.rootNode) where
  root := .refl
  imag _ := .imag
  single s n n' hn hs := by
    rcases singleOf_some hs with ⟨nm, x, _, rfl⟩ | ⟨t, _, rfl⟩
    · exact .child hn
    · exact .par hn
  items _ _ _ h _ _ _ := .child h
  allItems _ _ h _ _ _ := .child h

theorem drain_fresh_desc (cx : Ctx α) (steps : Array (Step α)) (src : Src α) (fuel : Nat) :
    ∀ n ∈ (drain cx steps src fuel freshIter).1, Desc src.rootNode n :=
  drain_inv cx steps src (NodeAS (Desc src.rootNode)) (NodeSig _)
    (astep_nodes cx.view steps src (desc_closed cx.view src)) trivial fuel freshIter .init (.init _ rfl) trivial

/-- the cells of anything that descends from the nested root `imag sm` end in the cells of
`sm.parent, sm.parent.parent, …`; the part in front is never empty -/
theorem cells_below_nested_root (sm m : MNode Val) (hd : Desc (.imag sm) m) :
    ∃ own, own ≠ [] ∧ m.cells = own ++ sm.cells.tail := by
  induction hd with
  | refl => exact ⟨[cellOf (.imag sm)], by simp, by simp [MNode.cells]⟩
  | @child p nm d _ ih =>
    obtain ⟨own, _, he⟩ := ih
    exact ⟨cellOf (.child p nm d) :: own, by simp, by simp [MNode.cells, he]⟩
  | @imag p _ ih =>
    obtain ⟨own, hne, he⟩ := ih
    cases own with
    | nil => exact absurd rfl hne
    | cons c own' => exact ⟨cellOf (.imag p) :: own', by simp, by simp [MNode.cells, he]⟩
  | @par rm f _ ih =>
    obtain ⟨own, _, he⟩ := ih
    exact ⟨cellOf (.par rm f) :: own, by simp, by simp [MNode.cells, he]⟩

end Treepath
