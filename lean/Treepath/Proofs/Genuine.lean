import Treepath.Proofs.Invariant
import Treepath.Proofs.ApiLemmas
/-
Every match the traverser produces is *genuine*: walking its `data_name`s from the document
root, by the very lookups Python performs (`d[k]`, `l[i]` with negative indices), arrives at
the value the match holds.  Proved once on the stack machine, for a view all of whose dicts have
unique keys (`KeysUniq`), and carried to `next()`, `get_match` and a whole iteration through the
bisimulation.  Used on the object store, where it lets the frame theorems of the writers speak
about *locations*; on JSON trees, whose objects may repeat keys, `J.WFK` and `Consistent` play that role.
-/
namespace Treepath
variable {α : Type}

/-- every dict the view shows, of whatever value, has unique keys (true of the object store, whose
dicts are Python dicts) -/
def KeysUniq (view : α → View α) : Prop := ∀ a es, view a = .dict es → (es.map Prod.fst).Nodup

section
variable (view : α → View α) (r : α)

/-- a match whose chain of names really leads from the root `r` to its value -/
def Gen : MNode α → Prop
  | .root d => d = r
  | .child p nm d => Gen p ∧ childAt (view p.data) nm = some d
  | .imag p => Gen p
  | .par rm f => Gen rm ∧ Gen f

/-- **a genuine match sits where it says**: walking its location from the root finds its value -/
theorem gen_walk (n : MNode α) (h : Gen view r n) : walk view r n.loc = some n.data := by
  induction n with
  | root d => simp [Gen] at h; simp [MNode.loc, walk, MNode.data, h]
  | child p nm d ih =>
    obtain ⟨hp, hc⟩ := h
    simp only [MNode.loc, walk_append, ih hp, Option.bind_some, walk, hc, MNode.data]
  | imag p ih => exact ih h
  | par rm f ih _ => exact ih h.1

theorem gen_remParent (n t : MNode α) (h : Gen view r n) (ht : n.remParent = some t) : Gen view r t := by
  induction n with
  | root d => simp [MNode.remParent] at ht
  | child p nm d _ => simp only [MNode.remParent, Option.some.injEq] at ht; subst ht; exact h.1
  | imag p ih => exact ih h ht
  | par rm f ih _ => exact ih h.1 ht

theorem gen_parent (m p : MNode α) (h : Gen view r m) (hp : m.parent = some p) : Gen view r p := by
  induction m with
  | root d => simp [MNode.parent] at hp
  | child q nm d _ => simp only [MNode.parent, Option.some.injEq] at hp; subst hp; exact h.1
  | imag q ih => exact ih h hp
  | par rm f _ _ => simp only [MNode.parent, Option.some.injEq] at hp; subst hp; exact h.2

end

section machine
variable (view : α → View α) (r : α) (steps : Array (Step α)) (src : Src α)

-- `GenFrame`, `GenStk`, `GenAS`, `GenSig` are `NodeFrame (Gen view r)` … `NodeSig (Gen view r)` written out
-- (`genAS_iff`, `genSig_iff`): the statements are written in them, `astep_gen` is proved in the `Node…` form
def GenFrame (fr : Frame α) : Prop :=
  Gen view r fr.owner ∧ ∀ p ∈ fr.items, childAt (view fr.owner.data) p.1 = some p.2

def GenStk (stk : List (Frame α)) : Prop := ∀ fr ∈ stk, GenFrame view r fr

def GenAS : AS α → Prop
  | .init => True
  | .report n _ _ stk => Gen view r n ∧ GenStk view r stk
  | .catch_ stk => GenStk view r stk
  | .attempt n _ stk => Gen view r n ∧ GenStk view r stk
  | .parked stk => GenStk view r stk
  | .done => True

def GenSig : Sig α → Prop
  | .result n => Gen view r n
  | _ => True

theorem genFrame_iff (fr : Frame α) : GenFrame view r fr ↔ NodeFrame (Gen view r) fr :=
  and_congr_right fun ho => forall₂_congr fun _ _ => (and_iff_right ho).symm

theorem genAS_iff (as : AS α) : GenAS view r as ↔ NodeAS (Gen view r) as := by
  cases as <;> simp only [GenAS, NodeAS, GenStk, NodeStk, genFrame_iff]

theorem genSig_iff (sig : Sig α) : GenSig view r sig ↔ NodeSig (Gen view r) sig := by
  cases sig <;> rfl

theorem gen_closed (hu : KeysUniq view) (hsrc : Gen view r src.rootNode) : NodeClosed view src (Gen view r) where
  root := hsrc
  imag _ h := h
  single s n n' h hs := by
    rcases singleOf_some hs with ⟨nm, x, hc, rfl⟩ | ⟨t, ht, rfl⟩
    · exact ⟨h, hc⟩
    · exact ⟨gen_remParent view r n t h ht, h⟩
  items s n its h hi p hp := ⟨h, itemsOf_mem s (view n.data) (hu n.data) its hi p hp⟩
  allItems n its h hi p hp := ⟨h, allItems_mem (view n.data) (hu n.data) its hi p hp⟩

theorem astep_gen (hu : KeysUniq view) (hsrc : Gen view r src.rootNode) (as : AS α) (hg : GenAS view r as) :
    GenAS view r (astep view steps src as).1 ∧ GenSig view r (astep view steps src as).2.2 := by
  rw [genAS_iff, genSig_iff] at *
  exact astep_nodes view steps src (gen_closed view r src hu hsrc) as hg

/-- **what `next()` of a fresh iterator yields is genuine** -/
theorem next_fresh_gen (hu : KeysUniq view) (hsrc : Gen view r src.rootNode) (limit : Nat) (n : MNode α)
    (h : (next view steps src limit freshIter).2.2 = .result n) : Gen view r n := by
  have hg := (next_inv view steps src _ _ (astep_gen view r steps src hu hsrc) trivial limit freshIter .init
    (.init _ rfl) trivial).2
  rwa [h] at hg

end machine

/-- what `get_match` finds is genuine, from any data source whose root match is (a search from a `Match`) -/
theorem getMatch_gen_src (cx : Ctx α) (hu : KeysUniq cx.view) (steps : Array (Step α)) (r : α) (src : Src α)
    (hsrc : Gen cx.view r src.rootNode) (mm : Bool) (m : MNode α)
    (h : getMatch cx steps src mm = .ok (some m)) : Gen cx.view r m :=
  next_fresh_gen cx.view r steps src hu hsrc cx.limit m ((getMatch_some cx steps src mm m).1 h)

/-- **the match `get_match` returns is genuine**: its names lead from the document to its value -/
theorem getMatch_gen (cx : Ctx α) (hu : KeysUniq cx.view) (steps : Array (Step α)) (d : α) (mm : Bool) (m : MNode α)
    (h : getMatch cx steps (.doc d) mm = .ok (some m)) : Gen cx.view d m :=
  getMatch_gen_src cx hu steps d (.doc d) rfl mm m h

section drain
variable {α : Type} (cx : Ctx α) (r : α) (steps : Array (Step α)) (src : Src α)

/-- every match an iteration yields is genuine (not only the first) -/
theorem drain_gen (hu : KeysUniq cx.view) (hsrc : Gen cx.view r src.rootNode) (fuel : Nat) (st : St α) (as : AS α)
    (h1 : R steps st as) (hg : GenAS cx.view r as) : ∀ n ∈ (drain cx steps src fuel st).1, Gen cx.view r n :=
  drain_inv cx steps src _ _ (astep_gen cx.view r steps src hu hsrc) trivial fuel st as h1 hg

theorem drain_fresh_gen (hu : KeysUniq cx.view) (hsrc : Gen cx.view r src.rootNode) (fuel : Nat) :
    ∀ n ∈ (drain cx steps src fuel freshIter).1, Gen cx.view r n :=
  drain_gen cx r steps src hu hsrc fuel freshIter .init (.init _ rfl) trivial

end drain

end Treepath
