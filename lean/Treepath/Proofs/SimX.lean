import Treepath.Proofs.Sim
import Treepath.Proofs.EventLemmas
/-
Simulation without the `Quiet` premise: predicates may raise, slices may have a zero step.
The stack machine *plays* the specification stream — to its end, or through its first
`raised` event, where it is stuck in the attempt that raises (and raises again when asked).
With clean predicates the only `raised` events are the machine's own, so a walk
(`Proofs/Sim.lean`) is a play.
-/
namespace Treepath

section
variable (steps : Array (Step J)) (src : Src J)

local notation "run" => arun J.view steps src

def StuckAt (U : AS J) (e : Exc) : Prop :=
  ∃ evs, astep J.view steps src U = (U, evs, .raised e) ∧ firstRaise evs = some e

/-- started at `S` the machine plays `evs`: to the end, arriving at `T`; or through the
first raise, stuck there -/
def Plays (S T : AS J) (evs : List (Ev J)) : Prop :=
  (firstRaise evs = none ∧ ∃ k, run k S = (T, evs)) ∨
  (∃ e, firstRaise evs = some e ∧ ∃ k U, run k S = (U, takeThroughRaise evs) ∧ StuckAt steps src U e)

theorem Plays.refl (S : AS J) : Plays steps src S S [] := .inl ⟨rfl, 0, rfl⟩

theorem Plays.step {S T : AS J} {evs : List (Ev J)} {sig : Sig J}
    (h : astep J.view steps src S = (T, evs, sig)) (hn : firstRaise evs = none) : Plays steps src S T evs :=
  .inl ⟨hn, 1, by rw [arun_one, h]⟩

theorem Plays.trans {S T V : AS J} {a b : List (Ev J)}
    (h1 : Plays steps src S T a) (h2 : Plays steps src T V b) : Plays steps src S V (a ++ b) := by
  rcases h1 with ⟨ha, k1, hk1⟩ | ⟨e, ha, k1, U, hk1, hU⟩
  · rcases h2 with ⟨hb, k2, hk2⟩ | ⟨e, hb, k2, U, hk2, hU⟩
    · exact .inl ⟨by rw [firstRaise_append, ha, hb], k1 + k2, by rw [arun_add, hk1, hk2]⟩
    · refine .inr ⟨e, by rw [firstRaise_append, ha, hb], k1 + k2, U, ?_, hU⟩
      rw [arun_add, hk1, hk2, ttr_append_none b ha]
  · exact .inr ⟨e, by rw [firstRaise_append, ha], k1, U, by rw [ttr_append_some b ha]; exact hk1, hU⟩

theorem Iterated.calm {n : MNode J} {vi : Nat} {stk : List (Frame J)} {its : List (Name × J)}
    {out : AS J × List (Ev J) × Sig J} (h : Iterated J.view n vi stk its out) : firstRaise out.2.1 = none := by
  cases h <;> rfl

theorem astep_calm (hp : PredsClean steps) (S : AS J) (hs : ∀ e, (astep J.view steps src S).2.2 ≠ .raised e) :
    firstRaise (astep J.view steps src S).2.1 = none := by
  have hsp := astep_spec J.view steps src S
  generalize astep J.view steps src S = out at hsp hs ⊢
  cases hsp with
  | init | done | result | toAttempt | catch_ | emptyStack | outOfRange => rfl
  | parked hit => exact hit.calm
  | @attempt n vi stk out hat =>
    have hpre : ∀ s pre ev, steps[vi]? = some s → PredEvs s n pre → ev.isClean = true →
        firstRaise (pre ++ [ev]) = none := fun s pre ev hget hpe hev =>
      firstRaise_clean _ fun x hx => (List.mem_append.mp hx).elim
        (PredEvs.clean hp (mem_toList_of_getElem? hget) hpe x) fun h => by rw [List.mem_singleton.mp h]; exact hev
    cases hat with
    | raised => exact absurd rfl (hs _)
    | miss s pre hget hpe => exact hpre s pre _ hget hpe rfl
    | kept s pre hget hpe => exact hpre s pre _ hget hpe rfl
    | iter _ _ _ _ _ hit => exact hit.calm
    | bug | single | recur => rfl

variable {steps src}

/-- with clean predicates the `raised` events of a walk are the machine's own: it plays -/
theorem Walks.plays (hp : PredsClean steps) {S T : AS J} {evs : List (Ev J)} (h : Walks steps src S T evs) :
    Plays steps src S T evs := by
  induction h with
  | refl S => exact Plays.refl steps src S
  | step h hs _ ih =>
    have hn := astep_calm steps src hp _ (by rw [h]; exact hs)
    rw [h] at hn
    exact (Plays.step steps src h hn).trans steps src ih
  | @stuck S evs e T post s n h hs hsh =>
    obtain ⟨A, rfl, hA⟩ := hsh.shape hp hs
    have hn := firstRaise_clean A hA
    have hf : firstRaise (A ++ [Ev.raised e]) = some e := by rw [firstRaise_append, hn]; rfl
    exact .inr ⟨e, by rw [firstRaise_append, hf], 1, _,
      by rw [arun_one, h, ttr_append_some _ hf, ttr_append_none _ hn]; rfl, _, h, hf⟩

variable (steps src)

/-- **Simulation, exceptions included**: with `steps = pre ++ rest` — any steps, predicates
that may raise (their own events clean) — the stack machine at `report n` plays
`stream rest pre.length n` and, unless stuck at a raise, arrives at `resume stack`. -/
theorem simx (rest pre : List (Step J)) (n : MNode J) (stk : List (Frame J)) (hd : steps.toList = pre ++ rest)
    (hp : PredsClean steps) :
    Plays steps src (.report n pre.length pre.length stk) (resume stk) (stream rest pre.length n) :=
  (walks_stream steps src rest pre n stk hd).plays hp

theorem simx_init (hp : PredsClean steps) :
    Plays steps src .init .done (stream steps.toList 0 src.rootNode) :=
  (walks_init steps src).plays hp

end
end Treepath
