import Treepath.Spec.TreeWrite
import Treepath.Proofs.HeapLemmas
/-
The writers on JSON trees (`Spec/TreeWrite.lean`) by themselves: assigning under a name and
replacing a child, updating below a child, the store's dict primitives and the tree's acting at
the same position, and how a cascading assignment along `ns ++ [nm]` splits into the cascade
along `ns` and a plain assignment.
-/
namespace Treepath

theorem updateAt_cons (F : J → Option J) (j : J) (nm : Name) (l : List Name) :
    J.updateAt F j (nm :: l) = (childAt (J.view j) nm).bind fun c => (J.updateAt F c l).bind (j.putChild nm) := by
  simp only [J.updateAt]
  cases childAt (J.view j) nm with
  | none => rfl
  | some c =>
    simp only [Option.bind_some]
    cases J.updateAt F c l <;> rfl

theorem cascadeAt_cons_cons (j : J) (nm nm2 : Name) (rest : List Name) (v : J) :
    J.cascadeAt j (nm :: nm2 :: rest) v =
      match childAt (J.view j) nm with
      | none => (J.cascadeAt (emptyFor nm2) (nm2 :: rest) v).bind (j.setName nm)
      | some c => (J.cascadeAt c (nm2 :: rest) v).bind (j.putChild nm) := by
  simp only [J.cascadeAt]
  cases childAt (J.view j) nm with
  | none =>
    simp only []
    cases J.cascadeAt (emptyFor nm2) (nm2 :: rest) v <;> rfl
  | some c =>
    simp only []
    cases J.cascadeAt c (nm2 :: rest) v <;> rfl

theorem kvsSet_lookup_self (es : List (String × J)) (k : String) (v : J) : (kvsSet es k v).lookup k = some v := by
  -- the cases of `kvsSet`: 1 no entry left (the key is added); 2 the entry has the key; 3 it has another
  fun_induction kvsSet es k v with
  | case1 => exact List.lookup_cons_self
  | case2 => exact List.lookup_cons_self
  | case3 k' v' es k v h ih => rw [lookup_cons_ne (Ne.symm h)]; exact ih

theorem kvsSet_kvsSet (es : List (String × J)) (k : String) (v w : J) : kvsSet (kvsSet es k v) k w = kvsSet es k w := by
  fun_induction kvsSet es k v with
  | case1 => simp [kvsSet]
  | case2 => simp [kvsSet]
  | case3 k' v' es k v h ih => simp [kvsSet, h, ih]

theorem childAt_setName {j j1 : J} {nm : Name} {e : J} (h : j.setName nm e = some j1) :
    childAt (J.view j1) nm = some e := by
  -- the successful cases of `J.setName`: 1 a key on an object; 2 an index in range; 3 the index
  -- equal to the length (append)
  revert h
  fun_cases J.setName j nm e <;> intro h <;> cases h
  case case1 es k => simp [childAt, J.view, kvsSet_lookup_self]
  case case2 xs i p hp => simp [childAt, J.view, getPy?_eq_norm, hp, normIndex_lt hp]
  case case3 xs _ => simp [childAt, J.view, getPy?_eq_norm, normIndex_self_len]

theorem putChild_eq_setName (j : J) (nm : Name) (c : J) :
    j.putChild nm c = if (childAt (J.view j) nm).isSome then j.setName nm c else none := by
  cases j <;> cases nm <;> simp only [J.putChild, J.setName, J.view, childAt, Option.isSome_none, Bool.false_eq_true, if_false]
  case obj.key es k => by_cases hs : (es.lookup k).isSome = true <;> simp [hs]
  case arr.idx xs i =>
    simp only [getPy?_eq_norm]
    cases hp : normIndex xs.length i with
    | none => rfl
    | some p => simp [normIndex_lt hp]

theorem setName_setName {j j1 : J} {nm : Name} {e : J} (c : J) (h : j.setName nm e = some j1) :
    j1.setName nm c = j.setName nm c := by
  -- cases as in `childAt_setName`
  revert h
  fun_cases J.setName j nm e <;> intro h <;> cases h
  case case1 es k => simp [J.setName, kvsSet_kvsSet]
  case case2 xs i p hp => simp [J.setName, hp]
  case case3 xs hn => simp [J.setName, hn, normIndex_self_len]

theorem putChild_setName (j j1 : J) (nm : Name) (e c : J) (h : j.setName nm e = some j1) :
    j1.putChild nm c = j.setName nm c := by
  rw [putChild_eq_setName, childAt_setName h]
  exact setName_setName c h

theorem childAt_putChild {j j1 : J} {nm : Name} {c : J} (h : j.putChild nm c = some j1) :
    childAt (J.view j1) nm = some c := by
  rw [putChild_eq_setName] at h
  split at h
  · exact childAt_setName h
  · cases h

theorem setName_none_indep {j : J} {nm : Name} {e : J} (c : J) (h : j.setName nm e = none) : j.setName nm c = none := by
  -- cases as in `childAt_setName`, then the two that fail: 4 any other index; 5 the rest
  fun_cases J.setName j nm c
  case case1 => cases h
  case case2 hp => rw [J.setName, hp] at h; cases h
  case case3 hn => rw [J.setName, hn, if_pos rfl] at h; cases h
  case case4 | case5 => rfl

theorem setName_bind_updateAt (F : J → Option J) (j : J) (nm : Name) (e : J) (l : List Name) :
    (j.setName nm e).bind (fun j1 => J.updateAt F j1 (nm :: l)) = (J.updateAt F e l).bind (j.setName nm) := by
  cases h : j.setName nm e with
  | none =>
    cases J.updateAt F e l with
    | none => rfl
    | some c => exact (setName_none_indep c h).symm
  | some j1 =>
    rw [Option.bind_some, updateAt_cons, childAt_setName h, Option.bind_some]
    exact congrArg _ (funext fun c => putChild_setName j j1 nm e c h)

theorem putChild_bind_updateAt (F : J → Option J) (j : J) (nm : Name) (e : J) (l : List Name) :
    (j.putChild nm e).bind (fun j1 => J.updateAt F j1 (nm :: l)) = (J.updateAt F e l).bind (j.putChild nm) := by
  rw [funext (putChild_eq_setName j nm)]
  split
  · exact setName_bind_updateAt F j nm e l
  · cases J.updateAt F e l <;> rfl

theorem walk_cons_some {α} {view : α → View α} {a r : α} {nm : Name} {l : List Name}
    (h : walk view a (nm :: l) = some r) : ∃ c, childAt (view a) nm = some c ∧ walk view c l = some r := by
  simp only [walk] at h
  split at h
  · exact ⟨_, ‹_›, h⟩
  · cases h

/-- a successful lookup, by position: the position `p` of key `k` serves the store's dict and the
tree's object alike (equal key lists); there assigning under `k` is `set p` on the values, erasing
`k` is `eraseIdx p` on values and keys -/
theorem kvs_pos : ∀ (kvs : List (String × J)) (es : List (String × Val)) (k : String) (c : Val),
    es.map Prod.fst = kvs.map Prod.fst → es.lookup k = some c →
    ∃ p jc, (es.map Prod.snd)[p]? = some c ∧ kvs.lookup k = some jc ∧ (kvs.map Prod.snd)[p]? = some jc ∧
      (∀ x, (kvsSet kvs k x).map Prod.snd = (kvs.map Prod.snd).set p x ∧ (kvsSet kvs k x).map Prod.fst = kvs.map Prod.fst) ∧
      (∀ v, (dictSet es k v).map Prod.snd = (es.map Prod.snd).set p v ∧ (dictSet es k v).map Prod.fst = es.map Prod.fst) ∧
      (kvsErase kvs k).map Prod.snd = (kvs.map Prod.snd).eraseIdx p ∧ (kvsErase kvs k).map Prod.fst = (kvs.map Prod.fst).eraseIdx p ∧
      (dictErase es k).map Prod.snd = (es.map Prod.snd).eraseIdx p ∧ (dictErase es k).map Prod.fst = (es.map Prod.fst).eraseIdx p := by
  intro kvs
  induction kvs with
  | nil =>
    intro es k c hk hl
    cases es with
    | nil => cases hl
    | cons _ _ => cases hk
  | cons kj kvs ih =>
    intro es k c hk hl
    obtain ⟨k1, j⟩ := kj
    cases es with
    | nil => cases hk
    | cons e es =>
      obtain ⟨k2, v⟩ := e
      obtain ⟨rfl, hk'⟩ := List.cons.inj hk
      by_cases he : k2 = k
      · subst he
        rw [List.lookup_cons_self] at hl
        cases hl
        -- position 0; in each of the six equations left the operation acts on the head entry, whose key is `k`
        refine ⟨0, j, rfl, List.lookup_cons_self, rfl, fun x => ?_, fun w => ?_, ?_, ?_, ?_, ?_⟩ <;>
          simp only [kvsSet, dictSet, kvsErase, dictErase, if_true, List.map_cons, List.set_cons_zero,
            List.eraseIdx_cons_zero, and_self]
      · rw [lookup_cons_ne (Ne.symm he)] at hl
        obtain ⟨p, jc, h1, h2, h3, h4, h5, h6, h7, h8, h9⟩ := ih es k c hk' hl
        -- one further; in each of the six equations left the operation passes the head entry, whose key is not `k`
        refine ⟨p+1, jc, h1, by rw [lookup_cons_ne (Ne.symm he), h2], h3,
          fun x => ?_, fun w => ?_, ?_, ?_, ?_, ?_⟩ <;>
          simp only [kvsSet, dictSet, kvsErase, dictErase, if_neg he, List.map_cons, List.set_cons_succ,
            List.eraseIdx_cons_succ, h4, h5, h6, h7, h8, h9, and_self]

theorem kvs_new : ∀ {kvs : List (String × J)} {es : List (String × Val)} {k : String},
    es.map Prod.fst = kvs.map Prod.fst → es.lookup k = none →
    kvs.lookup k = none ∧ (∀ x, kvsSet kvs k x = kvs ++ [(k, x)]) ∧ (∀ v, dictSet es k v = es ++ [(k, v)])
  | [], [], _ => fun _ _ => ⟨rfl, fun _ => rfl, fun _ => rfl⟩
  | [], _ :: _, _ => fun hk _ => (List.cons_ne_nil _ _ hk).elim
  | _ :: _, [], _ => fun hk _ => (List.cons_ne_nil _ _ hk.symm).elim
  | (k1, j) :: kvs, (k2, v) :: es, k => fun hk hl => by
    obtain ⟨rfl, hk'⟩ := List.cons.inj hk
    by_cases he : k2 = k
    · subst he; simp [List.lookup] at hl
    · rw [lookup_cons_ne (Ne.symm he)] at hl
      obtain ⟨h1, h2, h3⟩ := kvs_new hk' hl
      exact ⟨by rw [lookup_cons_ne (Ne.symm he), h1], fun x => by simp [kvsSet, he, h2 x], fun w => by simp [dictSet, he, h3 w]⟩

theorem cascade_snoc_found : ∀ (ns : List Name) (j : J) (nm : Name) (v : J) (c : J),
    walk J.view j ns = some c → J.cascadeAt j (ns ++ [nm]) v = J.setAt j ns nm v
  | [] => fun j nm v c _ => by simp [J.cascadeAt, J.setAt, J.updateAt]
  | n1 :: ns => fun j nm v c hw => by
    obtain ⟨c1, hc, hw'⟩ := walk_cons_some hw
    have ih := cascade_snoc_found ns c1 nm v c hw'
    rw [J.setAt, updateAt_cons, hc, Option.bind_some, ← J.setAt, ← ih]
    cases ns <;> simp only [List.cons_append, List.nil_append, cascadeAt_cons_cons, hc]

theorem walk_emptyFor (nm n2 : Name) (l : List Name) : walk J.view (emptyFor nm) (n2 :: l) = none := by
  cases nm <;> cases n2 <;> simp [walk, emptyFor, childAt, J.view, getPy?]

theorem cascade_snoc_missing : ∀ (ns : List Name) (j : J) (nm : Name) (v : J), ns ≠ [] →
    walk J.view j ns = none →
    J.cascadeAt j (ns ++ [nm]) v = (J.cascadeAt j ns (emptyFor nm)).bind (fun j1 => J.setAt j1 ns nm v)
  | [] => fun _ _ _ hne _ => absurd rfl hne
  | [n1] => fun j nm v _ hw => by
    have hc : childAt (J.view j) n1 = none := by
      cases hc : childAt (J.view j) n1 with
      | none => rfl
      | some c1 => simp [walk, hc] at hw
    simp only [List.cons_append, List.nil_append, cascadeAt_cons_cons, hc, J.cascadeAt, J.setAt]
    rw [setName_bind_updateAt]
    rfl
  | n1 :: n2 :: ns' => fun j nm v _ hw => by
    simp only [List.cons_append, cascadeAt_cons_cons, J.setAt]
    simp only [walk] at hw
    -- below `n1` (an existing child, or the container created for `n2`) the same split holds;
    -- the assignment below `n1` then commutes with putting the child back
    cases hc : childAt (J.view j) n1 with
    | none =>
      have ih := cascade_snoc_missing (n2 :: ns') (emptyFor n2) nm v (by simp) (walk_emptyFor n2 n2 ns')
      simp only [List.cons_append] at ih
      simp only [ih, Option.bind_assoc, J.setAt, setName_bind_updateAt]
    | some c1 =>
      simp only [hc] at hw
      have ih := cascade_snoc_missing (n2 :: ns') c1 nm v (by simp) hw
      simp only [List.cons_append] at ih
      simp only [ih, Option.bind_assoc, J.setAt, putChild_bind_updateAt]

theorem cascadeAt_reads_back : ∀ (ns : List Name) (j j' v : J), J.cascadeAt j ns v = some j' → walk J.view j' ns = some v
  | [] => fun _ _ _ h => by simp [J.cascadeAt] at h
  | [nm] => fun j j' v h => by
    simp only [J.cascadeAt] at h
    simp [walk, childAt_setName h]
  | nm :: nm2 :: rest => fun j j' v h => by
    rw [cascadeAt_cons_cons] at h
    cases hc : childAt (J.view j) nm with
    | none =>
      simp only [hc] at h
      obtain ⟨c', h1, h⟩ := Option.bind_eq_some_iff.mp h
      simp only [walk, childAt_setName h]
      exact cascadeAt_reads_back (nm2 :: rest) (emptyFor nm2) c' v h1
    | some c =>
      simp only [hc] at h
      obtain ⟨c', h1, h⟩ := Option.bind_eq_some_iff.mp h
      simp only [walk, childAt_putChild h]
      exact cascadeAt_reads_back (nm2 :: rest) c c' v h1

theorem cascade_into_new_container (nm : Name) (v : J) :
    J.cascadeAt (emptyFor nm) [nm] v =
      match nm with
      | .key k => some (.obj [(k, v)])
      | .idx i => if i = 0 then some (.arr [v]) else none := by
  cases nm with
  | key k => simp [J.cascadeAt, emptyFor, J.setName, kvsSet]
  | idx i =>
    simp only [J.cascadeAt, emptyFor, J.setName, List.length_nil]
    have : normIndex 0 i = none := by simp [normIndex]
    simp only [this]
    by_cases hi : i = 0
    · simp [hi]
    · simp [hi]

end Treepath
