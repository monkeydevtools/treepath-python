import Treepath.Proofs.Drive
import Treepath.Spec.Has
/- has-predicates over the nested machine: which outcomes are the budgets', what they emit -/
namespace Treepath

section
variable (steps : Array (Step J)) (src : Src J)

/-- under `Quiet` the only exception `next()` can raise is the loop budget -/
theorem next_raised_quiet (hq : Quiet steps.toList) (limit : Nat) (st st' : St J) (evs : List (Ev J)) (e : Exc)
    (h : next J.view steps src limit st = (st', evs, .raised e)) : e = .loopDetected := by
  rcases next_cases h with hl | ⟨s1, _, _, _, ha, _, _⟩
  · cases hl; rfl
  · exact (action_no_raise_quiet hq ha).elim

/-- outcomes of the has-loop that come from the traverser's budgets or the model's defensive
branches, not from the specification -/
def IsInfra (r : PRes) : Prop :=
  r = .raise .loopDetected ∨ r = .raise (.user "FUEL") ∨ r = .raise (.user "BUG") ∨ ∃ m, r = .raise (.user ("BUG:" ++ m))

/-- the property of events that has-predicates guarantee: not a result/stop/raise of the
outer search, and every attempt already stamped with a candidate -/
def Ev.inner : Ev J → Bool
  | .result _ | .stop | .raised _ => false
  | .attempt _ _ _ none => false
  | _ => true

theorem applyFnStep_evs (acc : List (Ev J) × Except Exc J) (f : Fn) (h : ∀ e ∈ acc.1, Ev.inner e = true) :
    ∀ e ∈ (applyFnStep acc f).1, Ev.inner e = true := by
  rcases acc with ⟨evs, r⟩
  cases r with
  | error x => exact h
  | ok v => exact List.forall_mem_append.mpr ⟨h, fun e he => List.mem_singleton.mp he ▸ rfl⟩

theorem applyFns_evs (fns : List Fn) (x : J) : ∀ e ∈ (applyFns (α := J) fns x).1, Ev.inner e = true := by
  have h : ∀ (l : List Fn) (acc : List (Ev J) × Except Exc J), (∀ e ∈ acc.1, Ev.inner e = true) →
      ∀ e ∈ (l.foldl applyFnStep acc).1, Ev.inner e = true := by
    intro l
    induction l with
    | nil => exact fun acc h => h
    | cons g gs ih => exact fun acc h => ih _ (applyFnStep_evs acc g h)
  cases fns with
  | nil => exact fun _ h => nomatch h
  | cons f fs => exact h _ _ fun _ h => nomatch h

theorem hasTest_evs (op : Option Fn) (fns : List Fn) (x : J) :
    ∀ e ∈ (hasTest (α := J) op fns x).1, Ev.inner e = true := by
  -- the test emits nothing, or what applying the functions emits
  have hfst : (hasTest (α := J) op fns x).1 = [] ∨ (hasTest (α := J) op fns x).1 = (applyFns fns x).1 := by
    unfold hasTest
    split
    · exact .inl rfl
    · rcases applyFns (α := J) fns x with ⟨evs, r⟩
      cases r <;> cases op <;> exact .inr rfl
  rcases hfst with h | h
  · rw [h]; exact fun _ h => nomatch h
  · rw [h]; exact applyFns_evs fns x

theorem stamp_filter_inner (c : MNode J) (evs : List (Ev J)) :
    ∀ e ∈ (evs.filter Ev.isClean).map (Ev.stampIfNone c),
      Ev.inner e = true := by
  intro e he
  simp only [List.mem_map, List.mem_filter] at he
  obtain ⟨e0, ⟨_, hk⟩, rfl⟩ := he
  cases e0 with
  | attempt l vi nx pm => cases pm <;> rfl
  | result | stop | raised => cases hk
  | _ => rfl

theorem hasLoop_evs (cx : Ctx J) (c : MNode J) (test : J → List (Ev J) × Except Exc J)
    (ht : ∀ x, ∀ e ∈ (test x).1, Ev.inner e = true) :
    ∀ (fuel : Nat) (st : St J), ∀ e ∈ (hasLoop cx steps c test fuel st).1, Ev.inner e = true := by
  intro fuel st
  -- 1 no fuel; `next` gives a result and the test 2 holds, 3 fails (the loop goes on), 4 raises;
  -- `next` gives 5 `stop`, 6 a raise, 7 no signal, 8 a bug
  fun_induction hasLoop cx steps c test fuel st with
  | case1 => exact fun _ h => nomatch h
  | case2 _ _ _ evs _ _ n tevs _ _ _ htest | case4 _ _ _ evs _ _ n tevs _ _ htest =>
    have htn := ht (cx.toJ n.data)
    rw [htest] at htn
    exact List.forall_mem_append.mpr ⟨stamp_filter_inner c evs, htn⟩
  | case3 _ _ _ evs _ _ n tevs _ _ evs' res hrec _ htest ih =>
    have htn := ht (cx.toJ n.data)
    rw [htest] at htn
    rw [hrec] at ih
    exact List.forall_mem_append.mpr ⟨List.forall_mem_append.mpr ⟨stamp_filter_inner c evs, htn⟩, ih⟩
  | case5 | case6 | case7 | case8 => exact stamp_filter_inner c _

theorem has_evs_inner (cx : Ctx J) (ss : List (Step J)) (op : Option Fn) (fns : List Fn) (c : MNode J) :
    ∀ e ∈ (has cx ss op fns c).evs, Ev.inner e = true :=
  hasLoop_evs ss.toArray cx c (hasTest op fns) (hasTest_evs op fns) cx.fuel freshIter

theorem inner_isClean (e : Ev J) (h : Ev.inner e = true) : e.isClean = true := by
  cases e with
  | result | stop | raised => cases h
  | _ => rfl

theorem attemptsTop_of_inner (l : List (Ev J)) (h : ∀ e ∈ l, Ev.inner e = true) : attemptsTop l = 0 :=
  attemptsTop_eq_zero.mpr fun _ _ _ hm => by simpa [Ev.inner] using h _ hm

end
end Treepath
