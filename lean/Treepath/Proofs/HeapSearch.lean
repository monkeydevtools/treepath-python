import Treepath.Proofs.AllocUnf
import Treepath.Proofs.NaturalNext
import Treepath.Proofs.DriveX
import Treepath.Proofs.ApiLemmas
/-
The object store is related to the JSON tree it unfolds to (`unf_view`), so by naturality a
search over the store — the searches `set_`, `pop`, `Match` handles, descriptors and list views
start — finds matches at the locations, in the order, of the same search over the unfolded tree.
Composed with the refinement of the definition by the machine on trees: what a search over the
store finds, in terms of the definition.
-/
namespace Treepath

theorem unfKvs_lrel {h : Heap} : ∀ {kvs : List (String × J)} {es : List (String × Val)},
    UnfKvsJ h kvs es → LRel (KvRel (Unf h)) es kvs
  | [], [], _ => .nil
  | (_, _) :: kvs, (_, _) :: es, hx => .cons ⟨hx.1, hx.2.1⟩ (unfKvs_lrel hx.2.2)
  | [], _ :: _, hx => hx.elim
  | _ :: _, [], hx => hx.elim

theorem unfList_lrel {h : Heap} : ∀ {ys : List J} {xs : List Val}, UnfListJ h ys xs → LRel (Unf h) xs ys
  | [], [], _ => .nil
  | _ :: ys, _ :: xs, hx => .cons hx.1 (unfList_lrel hx.2)
  | [], _ :: _, hx => hx.elim
  | _ :: _, [], hx => hx.elim

theorem unf_view (h : Heap) (v : Val) (j : J) (hu : Unf h v j) : ViewRel (Unf h) (hview h v) (J.view j) := by
  cases j with
  | obj kvs =>
    cases v with
    | atom a => exact hu.elim
    | ref id =>
      obtain ⟨es, he, hk⟩ := hu
      simp only [hview, he]
      exact .dict (unfKvs_lrel hk)
  | arr ys =>
    cases v with
    | atom a => exact hu.elim
    | ref id =>
      obtain ⟨xs, he, hk⟩ := hu
      simp only [hview, he]
      exact .list (unfList_lrel hk)
  | _ => cases (hu : v = _); exact .scalar

/-- **searching the object store is searching the tree**: for a heap value that unfolds to
the tree `j`, and steps that are the same on both sides (filters: related predicates), the
first `next()` over the heap and over the tree give related signals — a match at the same
location holding a value that unfolds to the tree's, the same `StopIteration`, the same exception -/
theorem heap_search_is_tree_search (h : Heap) (v : Val) (j : J) (hu : Unf h v j)
    (sa : Array (Step Val)) (sb : Array (Step J)) (hsteps : LRel (StepRel (Unf h)) sa.toList sb.toList) (limit : Nat) :
    SigRel (Unf h) (next (hview h) sa (.doc v) limit freshIter).2.2 (next J.view sb (.doc j) limit freshIter).2.2 :=
  (next_fresh_rel (hview h) J.view (unf_view h) sa sb hsteps (.doc v) (.doc j) (.root hu) limit).1

/-- **`find_matches` over the object store is `find_matches` over the tree**: the matches
enumerated (for `Match` handles, the `find` getter, iterator-typed attributes) are, one for one
and in order, at the locations of the matches of the same search over the unfolded tree, holding
values that unfold to theirs; and the iteration ends the same way -/
theorem heap_drain_is_tree_drain {h : Heap} {v : Val} {j : J} (hu : Unf h v j)
    (sa : Array (Step Val)) (sb : Array (Step J)) (hsteps : LRel (StepRel (Unf h)) sa.toList sb.toList) (fuel : Nat) :
    LRel (NodeRel (Unf h)) (drain (wcx h) sa (.doc v) fuel freshIter).1
      (drain ({ view := J.view, toJ := id } : Ctx J) sb (.doc j) fuel freshIter).1 ∧
    (drain (wcx h) sa (.doc v) fuel freshIter).2 =
      (drain ({ view := J.view, toJ := id } : Ctx J) sb (.doc j) fuel freshIter).2 :=
  drain_rel (wcx h) { view := J.view, toJ := id } rfl (unf_view h) sa sb hsteps (.doc v) (.doc j) (.root hu) fuel
    freshIter freshIter .init .init (.init _ rfl) (.init _ rfl) .init

/-- **the match a writer starts from is the definition's first result**: when `get_match` over
the object store (what `set_`, `pop`, `get(store_default)`, descriptors and list views call
for their target) finds a match, the step-by-step definition evaluated on the unfolded tree
has a first result, at the same location, holding the tree the match's value unfolds to -/
theorem getMatch_heap_found (h : Heap) (v : Val) (j : J) (hu : Unf h v j)
    (sa : Array (Step Val)) (sb : Array (Step J)) (hsteps : LRel (StepRel (Unf h)) sa.toList sb.toList)
    (hp : PredsClean sb) (mm : Bool) (m : MNode Val)
    (hg : getMatch (wcx h) sa (.doc v) mm = .ok (some m)) :
    ∃ m', NodeRel (Unf h) m m' ∧ (evalE sb.toList (.root j)).1.head? = some m' := by
  have hsig := heap_search_is_tree_search h v j hu sa sb hsteps (wcx h).limit
  rw [show hview h = (wcx h).view from rfl, (getMatch_some (wcx h) sa (.doc v) mm m).1 hg] at hsig
  rcases hn2 : next J.view sb (.doc j) (wcx h).limit freshIter with ⟨st2, evs2, sig2⟩
  rw [hn2] at hsig
  cases hsig with
  | @result _ m' hnm =>
    -- one call of `next()`, which yields `m'`, and then none
    have hy : Yields J.view sb (.doc j) (wcx h).limit freshIter [m'] (evs2 ++ []) st2 :=
      .cons freshIter st2 st2 evs2 m' [] [] hn2 (.nil st2)
    obtain ⟨rest, hr⟩ := yields_prefix_x sb (.doc j) hp (wcx h).limit st2 [m'] _ hy
    exact ⟨m', hnm, by rw [show (Src.doc j).rootNode = MNode.root j from rfl] at hr; rw [hr]; rfl⟩

theorem getMatch_heap_notfound {h : Heap} {v : Val} {j : J} (hu : Unf h v j)
    (sa : Array (Step Val)) (sb : Array (Step J)) (hsteps : LRel (StepRel (Unf h)) sa.toList sb.toList)
    (hp : PredsClean sb) {mm : Bool}
    (hg : getMatch (wcx h) sa (.doc v) mm = .ok none ∨ getMatch (wcx h) sa (.doc v) mm = .error .matchNotFound) :
    evalE sb.toList (.root j) = ([], none) := by
  have hsig := heap_search_is_tree_search h v j hu sa sb hsteps (wcx h).limit
  rw [show hview h = (wcx h).view from rfl, getMatch_notfound (wcx h) sa (.doc v) mm hg] at hsig
  rcases hn2 : next J.view sb (.doc j) (wcx h).limit freshIter with ⟨st2, evs2, sig2⟩
  rw [hn2] at hsig
  cases hsig with
  | stop => exact exhausted_all_x sb (.doc j) hp (wcx h).limit freshIter st2 [] [] evs2 (.nil _) hn2

/-- a step without a predicate, independent of the document type -/
inductive PStep where
  | key (k : String) | idx (i : Int) | slice (a b c : Option Int) | tuple (ns : List Name)
  | keyWc | idxWc | gwc | recur | parent

def PStep.toStep {α : Type} : PStep → Step α
  | .key k => .key k
  | .idx i => .idx i
  | .slice a b c => .slice a b c
  | .tuple ns => .tuple ns
  | .keyWc => .keyWc
  | .idxWc => .idxWc
  | .gwc => .gwc
  | .recur => .recur
  | .parent => .parent

theorem psteps_rel {α β : Type} (Rel : α → β → Prop) (ps : List PStep) :
    LRel (StepRel Rel) (ps.map (PStep.toStep (α := α))) (ps.map (PStep.toStep (α := β))) := by
  induction ps with
  | nil => exact .nil
  | cons p ps ih => exact .cons (by cases p <;> constructor) ih

theorem psteps_clean (ps : List PStep) : PredsClean (ps.map (PStep.toStep (α := J))).toArray := by
  intro s hs f hf
  simp only [List.mem_map] at hs
  obtain ⟨p, _, rfl⟩ := hs
  cases p <;> simp [PStep.toStep] at hf

/-- for a document loaded from the tree `j` and a filter-free path, with nothing left to
assume: what `get_match` finds in the object store is the first result of the definition on
`j`, at the same location, holding a value that unfolds to the definition's -/
theorem loaded_getMatch_is_definition (h0 : Heap) (j : J) (ps : List PStep) (mm : Bool) (m : MNode Val)
    (hg : getMatch (wcx (allocJ h0 j).1) (ps.map PStep.toStep).toArray (.doc (allocJ h0 j).2) mm = .ok (some m)) :
    ∃ m', NodeRel (Unf (allocJ h0 j).1) m m' ∧ (evalE (ps.map PStep.toStep) (.root j)).1.head? = some m' :=
  getMatch_heap_found (allocJ h0 j).1 (allocJ h0 j).2 j (allocJ_spec h0 j).2
    (ps.map PStep.toStep).toArray (ps.map PStep.toStep).toArray (psteps_rel _ ps) (psteps_clean ps) mm m hg

end Treepath
