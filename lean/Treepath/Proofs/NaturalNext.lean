import Treepath.Proofs.Natural
import Treepath.Proofs.Invariant
/-
`next()` and the whole iteration are natural in the document type: over related documents,
related steps and related start nodes they give related matches, in the same order, and end
the same way.
-/
namespace Treepath

section natural
variable {α β : Type} {Rel : α → β → Prop}
  (va : α → View α) (vb : β → View β) (hview : ∀ a b, Rel a b → ViewRel Rel (va a) (vb b))
  (sa : Array (Step α)) (sb : Array (Step β)) (hsteps : LRel (StepRel Rel) sa.toList sb.toList)
  (srca : Src α) (srcb : Src β) (hsrc : NodeRel Rel srca.rootNode srcb.rootNode)
include hview hsteps hsrc

theorem anext_rel (limit : Nat) {as : AS α} {bs : AS β} (h : ASRel Rel as bs) :
    OutRel (Rel := Rel) (anext va sa srca limit as) (anext vb sb srcb limit bs) := by
  induction limit generalizing as bs with
  | zero => exact ⟨h, .cons (.raised _) .nil, .raised _⟩
  | succ limit ih =>
    obtain ⟨h1, h2, h3⟩ := astep_rel va vb hview sa sb hsteps srca srcb hsrc h
    rcases ha : astep va sa srca as with ⟨t, ev, sg⟩
    rcases hb : astep vb sb srcb bs with ⟨t', ev', sg'⟩
    rw [ha, hb] at h1 h2 h3
    simp only at h1 h2 h3
    unfold anext
    rw [ha, hb]
    cases h3 with
    | none =>
      simp only
      split
      · exact ⟨h1, LRel.append h2 (.cons (.raised _) .nil), .raised _⟩
      · obtain ⟨q1, q2, q3⟩ := ih h1
        exact ⟨q1, LRel.append h2 q2, q3⟩
    | result hn =>
      simp only
      split
      · exact ⟨h1, LRel.append h2 (.cons (.raised _) .nil), .raised _⟩
      · exact ⟨h1, h2, .result hn⟩
    | stop => exact ⟨h1, h2, .stop⟩
    | raised e => exact ⟨h1, h2, .raised e⟩
    | bug m => exact ⟨h1, h2, .bug m⟩

theorem next_rel (limit : Nat) {st : St α} {st' : St β} {as : AS α} {bs : AS β}
    (h1 : R sa st as) (h2 : R sb st' bs) (h : ASRel Rel as bs) :
    (∃ as' bs', R sa (next va sa srca limit st).1 as' ∧ R sb (next vb sb srcb limit st').1 bs' ∧ ASRel Rel as' bs') ∧
    LRel (EvRel Rel) (next va sa srca limit st).2.1 (next vb sb srcb limit st').2.1 ∧
    SigRel Rel (next va sa srca limit st).2.2 (next vb sb srcb limit st').2.2 := by
  obtain ⟨ea, ra⟩ := next_anext va sa srca limit st as h1
  obtain ⟨eb, rb⟩ := next_anext vb sb srcb limit st' bs h2
  obtain ⟨q1, q2, q3⟩ := anext_rel va vb hview sa sb hsteps srca srcb hsrc limit h
  rw [ea, eb]
  exact ⟨⟨_, _, ra, rb, q1⟩, q2, q3⟩

/-- **`next()` of fresh iterators over related documents**: related signals — a result on
one side is a result on the other at the same location holding a related value; the same
`StopIteration`, the same exception -/
theorem next_fresh_rel (limit : Nat) :
    SigRel Rel (next va sa srca limit freshIter).2.2 (next vb sb srcb limit freshIter).2.2 ∧
    LRel (EvRel Rel) (next va sa srca limit freshIter).2.1 (next vb sb srcb limit freshIter).2.1 :=
  (next_rel va vb hview sa sb hsteps srca srcb hsrc limit (.init _ rfl) (.init _ rfl) .init).2.symm

end natural

section drain
variable {α β : Type} {Rel : α → β → Prop}
  (cxa : Ctx α) (cxb : Ctx β) (hlim : cxa.limit = cxb.limit)
  (hview : ∀ a b, Rel a b → ViewRel Rel (cxa.view a) (cxb.view b))
  (sa : Array (Step α)) (sb : Array (Step β)) (hsteps : LRel (StepRel Rel) sa.toList sb.toList)
  (srca : Src α) (srcb : Src β) (hsrc : NodeRel Rel srca.rootNode srcb.rootNode)
include hlim hview hsteps hsrc

/-- **the whole iteration, related**: draining iterators whose states are related (through
the two bisimulations and the naturality relation) yields related matches, one for one and in
the same order, and ends the same way -/
theorem drain_rel (fuel : Nat) (st : St α) (st' : St β) (as : AS α) (bs : AS β)
    (h1 : R sa st as) (h2 : R sb st' bs) (h3 : ASRel Rel as bs) :
    LRel (NodeRel Rel) (drain cxa sa srca fuel st).1 (drain cxb sb srcb fuel st').1 ∧
    (drain cxa sa srca fuel st).2 = (drain cxb sb srcb fuel st').2 := by
  induction fuel generalizing st st' as bs with
  | zero => exact ⟨.nil, rfl⟩
  | succ fuel ih =>
    obtain ⟨⟨as', bs', ra, rb, q1⟩, _, q3⟩ :=
      next_rel cxa.view cxb.view hview sa sb hsteps srca srcb hsrc cxb.limit h1 h2 h3
    simp only [drain, nextOut, hlim]
    generalize next cxa.view sa srca cxb.limit st = na at ra q3 ⊢
    generalize next cxb.view sb srcb cxb.limit st' = nb at rb q3 ⊢
    obtain ⟨ta, eva, sga⟩ := na
    obtain ⟨tb, evb, sgb⟩ := nb
    cases q3 with
    | result hn =>
      obtain ⟨i1, i2⟩ := ih ta tb as' bs' ra rb q1
      exact ⟨.cons hn i1, i2⟩
    | _ => exact ⟨.nil, rfl⟩

end drain

end Treepath
