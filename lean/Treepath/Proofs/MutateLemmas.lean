import Treepath.Proofs.HeapLemmas
/-
What the writers of `Model/Mutate.lean` do, outcome by outcome: a successful `vertex.set` /
`vertex.pop` is one write of one object (`SetWrite` / `PopWrite`); `set_match` / `pop_match` are a
search followed by such a write, the `Match` handles such a write at the slot they hold on to;
and the frame facts that follow.
-/
namespace Treepath

def nameStepV : Name → Step Val
  | .key k => .key k
  | .idx i => .idx i

theorem nameStepV_inj {a b : Name} (h : nameStepV a = nameStepV b) : a = b := by
  cases a <;> cases b <;> simp [nameStepV] at h <;> rw [h]

theorem singleOf_nameStepV (view : Val → View Val) (nm : Name) (n : MNode Val) :
    singleOf view (nameStepV nm) n = (childAt (view n.data) nm).map (MNode.child n nm) := by
  cases nm
  · exact singleOf_key view _ n
  · exact singleOf_idx view _ n

/-- the object a successful `vertex.set` of `v` under a name leaves at address `id` -/
inductive SetWrite (h : Heap) (v : Val) (id : Nat) : Name → Obj → Prop
  | key {k es} (ho : h[id]? = some (.dict es)) : SetWrite h v id (.key k) (.dict (dictSet es k v))
  | idx {i xs p} (ho : h[id]? = some (.list xs)) (hp : normIndex xs.length i = some p) :
      SetWrite h v id (.idx i) (.list (xs.set p v))
  | append {xs} (ho : h[id]? = some (.list xs)) : SetWrite h v id (.idx xs.length) (.list (xs ++ [v]))

theorem SetWrite.lt {h : Heap} {v : Val} {id : Nat} {nm : Name} {o : Obj} (hw : SetWrite h v id nm o) : id < h.size := by
  cases hw <;> exact lt_size_of_get ‹_›

theorem SetWrite.get {h : Heap} {v : Val} {id : Nat} {nm : Name} {o : Obj} (hw : SetWrite h v id nm o) :
    o.get? nm = some v := by
  cases hw with
  | key => exact dictSet_lookup_self ..
  | idx _ hp => simp [Obj.get?, hp, normIndex_lt hp]
  | append => simp [Obj.get?, normIndex]

theorem SetWrite.childAt {h : Heap} {v : Val} {id : Nat} {nm : Name} {o : Obj} (hw : SetWrite h v id nm o) :
    childAt (hview (hput h id o) (.ref id)) nm = some v := by
  rw [childAt_hview (hput_self hw.lt), hw.get]

theorem vertexSet_key {h : Heap} {pm : MNode Val} {id : Nat} {es : List (String × Val)} (k : String) (v : Val)
    (hd : pm.data = .ref id) (ho : h[id]? = some (.dict es)) :
    vertexSet h (.key k) pm v = .ok (hput h id (.dict (dictSet es k v)), .child pm (.key k) v) := by
  simp [vertexSet, hd, ho]

theorem vertexSet_idx {h : Heap} {pm : MNode Val} {id : Nat} {xs : List Val} (i : Int) (v : Val)
    (hd : pm.data = .ref id) (ho : h[id]? = some (.list xs)) :
    vertexSet h (.idx i) pm v =
      match normIndex xs.length i with
      | some p => .ok (hput h id (.list (xs.set p v)), .child pm (.idx i) v)
      | none => if i = xs.length then .ok (hput h id (.list (xs ++ [v])), .child pm (.idx i) v) else .error .setError := by
  cases hp : normIndex xs.length i <;> simp [vertexSet, hd, ho, listSet, hp]

theorem vertexSet_ok {h h' : Heap} {s : Step Val} {pm m : MNode Val} {v : Val} (hs : vertexSet h s pm v = .ok (h', m)) :
    ∃ id nm o, pm.data = .ref id ∧ s = nameStepV nm ∧ SetWrite h v id nm o ∧ h' = hput h id o ∧ m = .child pm nm v := by
  -- the cases of `vertexSet`, in the order of its arms: 1 key on a dict; 2 key on anything else;
  -- 3 index in range; 4 index = length (append); 5 any other index; 6 index on no list; 7 the rest
  revert hs
  fun_cases vertexSet h s pm v <;> intro hs <;> cases hs
  case case1 k id hd es ho => exact ⟨id, .key k, _, hd, rfl, .key ho, rfl, rfl⟩
  case case3 i id hd xs ho xs' hls =>
    obtain ⟨p, hp, rfl⟩ := listSet_spec hls
    exact ⟨id, .idx i, _, hd, rfl, .idx ho hp, rfl, rfl⟩
  case case4 id hd xs ho _ => exact ⟨id, .idx xs.length, _, hd, rfl, .append ho, rfl, rfl⟩

theorem vertexSet_error {h : Heap} {s : Step Val} {pm : MNode Val} {v : Val} {e : ApiErr}
    (he : vertexSet h s pm v = .error e) : e = .setError := by
  -- cases as in `vertexSet_ok`
  revert he
  fun_cases vertexSet h s pm v <;> intro he <;> cases he <;> rfl

theorem vertexSet_of_write {h : Heap} {v : Val} {id : Nat} {nm : Name} {o : Obj} {pm : MNode Val}
    (hd : pm.data = .ref id) (hw : SetWrite h v id nm o) :
    vertexSet h (nameStepV nm) pm v = .ok (hput h id o, .child pm nm v) := by
  cases hw with
  | key ho => exact vertexSet_key _ v hd ho
  | idx ho hp => rw [nameStepV, vertexSet_idx _ v hd ho, hp]
  | append ho => rw [nameStepV, vertexSet_idx _ v hd ho]; simp [normIndex]

theorem vertexSet_frame {h h' : Heap} {s : Step Val} {pm m : MNode Val} {v : Val}
    (hs : vertexSet h s pm v = .ok (h', m)) :
    ∃ (id : Nat) (nm : Name), pm.data = .ref id ∧ m = .child pm nm v ∧ h'.size = h.size ∧ ∀ j : Nat, j ≠ id → h'[j]? = h[j]? := by
  obtain ⟨id, nm, o, hd, _, _, rfl, hm⟩ := vertexSet_ok hs
  exact ⟨id, nm, hd, hm, hput_size .., fun j hj => hput_other hj⟩

/-- the object a successful `vertex.pop` under a name leaves at address `id` -/
inductive PopWrite (h : Heap) (id : Nat) : Name → Obj → Prop
  | key {k es c} (ho : h[id]? = some (.dict es)) (hl : es.lookup k = some c) : PopWrite h id (.key k) (.dict (dictErase es k))
  | idx {i xs p c} (ho : h[id]? = some (.list xs)) (hp : normIndex xs.length i = some p) (hc : xs[p]? = some c) :
      PopWrite h id (.idx i) (.list (xs.eraseIdx p))

theorem PopWrite.had {h : Heap} {id : Nat} {nm : Name} {o : Obj} (hw : PopWrite h id nm o) :
    ∃ o0 c, h[id]? = some o0 ∧ o0.get? nm = some c := by
  cases hw with
  | key ho hl => exact ⟨_, _, ho, hl⟩
  | idx ho hp hc => exact ⟨_, _, ho, by simpa [Obj.get?, hp] using hc⟩

theorem vertexPop_ok {h h' : Heap} {last : Option (Step Val)} {m : MNode Val} (hp : vertexPop h last m = .ok h') :
    ∃ p id nm o, m.parent = some p ∧ p.data = .ref id ∧ last = some (nameStepV nm) ∧ PopWrite h id nm o ∧
      h' = hput h id o := by
  -- the cases of `vertexPop`: 1 key removed; 2 no such key (`KeyError`); 3 key on no dict;
  -- 4 item removed; 5 no such index (`IndexError`); 6 index on no list; 7 the rest
  revert hp
  fun_cases vertexPop h last m <;> intro hp <;> cases hp
  case case1 k id hd es ho w es' hdel =>
    obtain ⟨p, hpar, hpd⟩ := Option.map_eq_some_iff.mp hd
    obtain ⟨hl, rfl⟩ := dictDel_spec hdel
    exact ⟨p, id, .key k, _, hpar, hpd, rfl, .key ho hl, rfl⟩
  case case4 i id hd xs ho w xs' hdel =>
    obtain ⟨p, hpar, hpd⟩ := Option.map_eq_some_iff.mp hd
    obtain ⟨q, hq, hc, rfl⟩ := listDel_spec hdel
    exact ⟨p, id, .idx i, _, hpar, hpd, rfl, .idx ho hq hc, rfl⟩

theorem vertexPop_of_write {h : Heap} {id : Nat} {nm : Name} {o : Obj} {m p : MNode Val}
    (hm : m.parent = some p) (hd : p.data = .ref id) (hw : PopWrite h id nm o) :
    vertexPop h (some (nameStepV nm)) m = .ok (hput h id o) := by
  cases hw with
  | key ho hl => simp [vertexPop, nameStepV, hm, hd, ho, dictDel, hl]
  | idx ho hp hc => simp [vertexPop, nameStepV, hm, hd, ho, listDel, hp, hc]

theorem vertexPop_error {h : Heap} {last : Option (Step Val)} {m : MNode Val} {e : ApiErr}
    (hp : vertexPop h last m = .error e) :
    e = .popError ∨ ((e = .exc (.user "KeyError") ∨ e = .exc (.user "IndexError")) ∧
      ∃ p nm, m.parent = some p ∧ last = some (nameStepV nm) ∧ childAt (hview h p.data) nm = none) := by
  -- cases as in `vertexPop_ok`
  revert hp
  fun_cases vertexPop h last m <;> intro hp <;> cases hp
  case case2 k id hd es ho hdel =>
    obtain ⟨p, hpar, hpd⟩ := Option.map_eq_some_iff.mp hd
    exact .inr ⟨.inl rfl, p, .key k, hpar, rfl, by rw [hpd, childAt_hview ho]; exact dictDel_eq_none.mp hdel⟩
  case case5 i id hd xs ho hdel =>
    obtain ⟨p, hpar, hpd⟩ := Option.map_eq_some_iff.mp hd
    exact .inr ⟨.inr rfl, p, .idx i, hpar, rfl, by rw [hpd, childAt_hview ho]; exact listDel_eq_none.mp hdel⟩
  all_goals exact .inl rfl

theorem setMatch_ok {stepsOf : Heap → List (Step Val)} {src : Src Val} {c : Bool} {h h' : Heap} {v : Val} {m : MNode Val}
    (hset : setMatch stepsOf src c h v = (h', .ok m)) :
    ∃ n, (stepsOf h).length = n + 1 ∧ setMatchN stepsOf src c (n+1) h v = (h', .ok m) := by
  unfold setMatch at hset
  cases hn : (stepsOf h).length with
  | zero => rw [hn] at hset; cases hset
  | succ n => exact ⟨n, rfl, hn ▸ hset⟩

theorem setMatchN_ok {stepsOf : Heap → List (Step Val)} {src : Src Val} {n : Nat} {h h' : Heap} {v : Val} {m : MNode Val}
    (hset : setMatchN stepsOf src false (n+1) h v = (h', .ok m)) :
    ∃ last pm, (stepsOf h)[n]? = some last ∧
      getMatch (wcx h) ((stepsOf h).take n).toArray src true = .ok (some pm) ∧ vertexSet h last pm v = .ok (h', m) := by
  -- the cases of `setMatchN`: 1 the empty path; 2 the path is shorter than `n`; 3 the parent path
  -- has a match and `vertex.set` goes through; 4 … and refuses; 5 `get_match` returned nothing;
  -- 6, 7, 8 no match, cascade: default container allocated, recursive call ok and `vertex.set` ok /
  -- refuses / recursive call fails; 9 no match, no cascade; 10 any other error of the search
  generalize hk : n + 1 = k at hset
  generalize hc : false = c at hset
  fun_induction setMatchN stepsOf src c k h v with
  | case3 _ _ h v last hl pm hg h2 m2 hvs => cases hset; cases hk; exact ⟨last, pm, hl, hg, hvs⟩
  | case6 | case7 | case8 => cases hc
  | case1 | case2 | case4 | case5 | case9 | case10 => cases hset

theorem setMatchN_nocascade {stepsOf : Heap → List (Step Val)} {src : Src Val} {n : Nat} {h h' : Heap} {v : Val}
    {r : Except ApiErr (MNode Val)} (hr : setMatchN stepsOf src false n h v = (h', r)) :
    (∀ e, r = .error e → h' = h) ∧
    (∀ m, r = .ok m → m.data = v ∧ h'.size = h.size ∧ ∃ id : Nat, ∀ j : Nat, j ≠ id → h'[j]? = h[j]?) := by
  -- cases as in `setMatchN_ok`
  generalize hc : false = c at hr
  fun_induction setMatchN stepsOf src c n h v with
  | case3 _ _ h v last _ pm _ h2 m hvs =>
    cases hr
    obtain ⟨id, nm, _, rfl, hsz, hfr⟩ := vertexSet_frame hvs
    exact ⟨nofun, fun m hm => by cases hm; exact ⟨rfl, hsz, id, hfr⟩⟩
  | case6 | case7 | case8 => cases hc
  | case1 | case2 | case4 | case5 | case9 | case10 => cases hr; exact ⟨fun _ _ => rfl, nofun⟩

theorem defaultValueFor_spec (h : Heap) (s : Step Val) :
    (∀ j : Nat, j < h.size → (defaultValueFor h s).1[j]? = h[j]?) ∧ h.size ≤ (defaultValueFor h s).1.size ∧
    (∀ id : Nat, (defaultValueFor h s).2 = .ref id → id = h.size ∧
       ((defaultValueFor h s).1[id]? = some (.dict []) ∨ (defaultValueFor h s).1[id]? = some (.list []))) := by
  unfold defaultValueFor
  split
  · exact ⟨push_old h _, by simp, fun id he => by cases he; simp⟩
  · exact ⟨push_old h _, by simp, fun id he => by cases he; simp⟩
  · exact ⟨fun _ _ => rfl, Nat.le_refl _, nofun⟩

theorem setMatchN_cascade_frame {stepsOf : Heap → List (Step Val)} {src : Src Val} {n : Nat} {h h' : Heap} {v : Val}
    {r : Except ApiErr (MNode Val)} (hr : setMatchN stepsOf src true n h v = (h', r)) :
    h.size ≤ h'.size ∧ (∃ id0 : Nat, ∀ j : Nat, j < h.size → j ≠ id0 → h'[j]? = h[j]?) ∧ (∀ m, r = .ok m → m.data = v) := by
  generalize true = c at hr
  -- cases as in `setMatchN_ok`
  fun_induction setMatchN stepsOf src c n h v generalizing h' r with
  | case3 _ _ h v last _ pm _ h2 m hvs =>
    cases hr
    obtain ⟨id, nm, _, rfl, hsz, hfr⟩ := vertexSet_frame hvs
    exact ⟨Nat.le_of_eq hsz.symm, ⟨id, fun j _ hj => hfr j hj⟩, fun m hm => by cases hm; rfl⟩
  | case6 n h v last _ e _ _ h1 dv hdv h2 pm hrec h3 m hvs ih =>
    cases hr
    obtain ⟨hd1, hd2, hd3⟩ := defaultValueFor_spec h last
    simp only [hdv] at hd1 hd2 hd3
    obtain ⟨ihsz, ⟨id0, ihfr⟩, ihdata⟩ := ih hrec
    obtain ⟨id, nm, hpd, rfl, hsz, hfr⟩ := vertexSet_frame hvs
    -- the object written last is the fresh container
    have hid : id = h.size := by rw [ihdata pm rfl] at hpd; exact (hd3 id hpd).1
    refine ⟨Nat.le_trans hd2 (hsz ▸ ihsz), ⟨id0, fun j hj hne => ?_⟩, fun m hm => by cases hm; rfl⟩
    rw [hfr j (hid ▸ Nat.ne_of_lt hj), ihfr j (Nat.lt_of_lt_of_le hj hd2) hne, hd1 j hj]
  | case7 n h v last _ e _ _ h1 dv hdv h2 pm hrec e2 _ ih | case8 n h v last _ e _ _ h1 dv hdv h2 e2 hrec ih =>
    cases hr
    obtain ⟨hd1, hd2, _⟩ := defaultValueFor_spec h last
    simp only [hdv] at hd1 hd2
    obtain ⟨ihsz, ⟨id0, ihfr⟩, _⟩ := ih hrec
    exact ⟨Nat.le_trans hd2 ihsz, ⟨id0, fun j hj hne => by rw [ihfr j (Nat.lt_of_lt_of_le hj hd2) hne, hd1 j hj]⟩, nofun⟩
  | case1 | case2 | case4 | case5 | case9 | case10 => cases hr; exact ⟨Nat.le_refl _, ⟨0, fun _ _ _ => rfl⟩, nofun⟩

theorem popMatch_ok {stepsOf : Heap → List (Step Val)} {src : Src Val} {mm : Bool} {h h' : Heap} {m : MNode Val}
    (hpop : popMatch stepsOf src mm h = (h', .ok (some m))) :
    getMatch (wcx h) (stepsOf h).toArray src mm = .ok (some m) ∧ vertexPop h (stepsOf h).getLast? m = .ok h' := by
  -- the cases of `popMatch`: 1 nothing found; 2 found and popped; 3 found, `vertex.pop` fails;
  -- 4 the search fails
  revert hpop
  fun_cases popMatch stepsOf src mm h <;> intro hpop <;> cases hpop
  case case2 hg hvp => exact ⟨hg, hvp⟩

theorem popMatch_none {stepsOf : Heap → List (Step Val)} {src : Src Val} {mm : Bool} {h h' : Heap}
    (hpop : popMatch stepsOf src mm h = (h', .ok none)) :
    h' = h ∧ getMatch (wcx h) (stepsOf h).toArray src mm = .ok none := by
  revert hpop
  fun_cases popMatch stepsOf src mm h <;> intro hpop <;> cases hpop
  case case1 hg => exact ⟨rfl, hg⟩

theorem popMatch_error {stepsOf : Heap → List (Step Val)} {src : Src Val} {mm : Bool} {h h' : Heap} {e : ApiErr}
    (hpop : popMatch stepsOf src mm h = (h', .error e)) :
    h' = h ∧ (getMatch (wcx h) (stepsOf h).toArray src mm = .error e ∨
      ∃ m, getMatch (wcx h) (stepsOf h).toArray src mm = .ok (some m) ∧ vertexPop h (stepsOf h).getLast? m = .error e) := by
  revert hpop
  fun_cases popMatch stepsOf src mm h <;> intro hpop <;> cases hpop
  case case3 m hg hv => exact ⟨rfl, .inr ⟨m, hg, hv⟩⟩
  case case4 hg => exact ⟨rfl, .inl hg⟩

theorem popMatch_other {stepsOf : Heap → List (Step Val)} {src : Src Val} {h h' : Heap} {mm : Bool}
    {r : Except ApiErr (Option (MNode Val))} (hpop : popMatch stepsOf src mm h = (h', r))
    (hr : ∀ m, r ≠ .ok (some m)) : h' = h := by
  match r with
  | .error e => exact (popMatch_error hpop).1
  | .ok none => exact (popMatch_none hpop).1
  | .ok (some m) => exact absurd rfl (hr m)

theorem Handle.slot_eq {h : Heap} {hd : Handle} {id : Nat} {o : Obj} (hp : hd.parent = .ref id)
    (ho : h[id]? = some o) : hd.slot h = o.get? hd.name := by
  cases o <;> cases hn : hd.name <;> simp [Handle.slot, hp, hn, ho, Obj.get?]

/-- the write of `vertexSet_ok`, without the append: an index equal to the length is an `IndexError` here -/
theorem Handle.assign_ok {h h' : Heap} {hd hd' : Handle} {v : Val} (ha : hd.assign h v = .ok (h', hd')) :
    ∃ id o, hd.parent = .ref id ∧ SetWrite h v id hd.name o ∧ h' = hput h id o ∧ hd' = { hd with cache := v } := by
  -- the cases of `Handle.assign`: 1 key, parent a dict; 2 key, no dict; 3 index in range;
  -- 4 `IndexError`; 5 index, no list; 6 the rest
  revert ha
  fun_cases Handle.assign h hd v <;> intro ha <;> cases ha
  case case1 id k hn hpar es ho => exact ⟨id, _, hpar, hn ▸ .key ho, rfl, rfl⟩
  case case3 id i hn hpar xs ho xs' hls =>
    obtain ⟨p, hp, rfl⟩ := listSet_spec hls
    exact ⟨id, _, hpar, hn ▸ .idx ho hp, rfl, rfl⟩

theorem Handle.del_ok {h h' : Heap} {hd hd' : Handle} (ha : hd.del h = .ok (h', hd')) :
    ∃ id o, hd.parent = .ref id ∧ PopWrite h id hd.name o ∧ h' = hput h id o ∧ hd' = { hd with cache := .atom .null } := by
  -- the cases of `Handle.del`: as those of `vertexPop`, the entry missing being PopError (2, 5)
  revert ha
  fun_cases Handle.del h hd <;> intro ha <;> cases ha
  case case1 id k hn hpar es ho w es' hdel =>
    obtain ⟨hl, rfl⟩ := dictDel_spec hdel
    exact ⟨id, _, hpar, hn ▸ .key ho hl, rfl, rfl⟩
  case case4 id i hn hpar xs ho w xs' hdel =>
    obtain ⟨q, hq, hc, rfl⟩ := listDel_spec hdel
    exact ⟨id, _, hpar, hn ▸ .idx ho hq hc, rfl, rfl⟩

theorem Handle.del_error {h : Heap} {hd : Handle} {e : HErr} {id : Nat} (ha : hd.del h = .error e)
    (hp : hd.parent = .ref id)
    (hkind : (∃ es k, h[id]? = some (.dict es) ∧ hd.name = .key k) ∨ (∃ xs i, h[id]? = some (.list xs) ∧ hd.name = .idx i)) :
    e = .popError := by
  unfold Handle.del at ha
  rcases hkind with ⟨es, k, ho, hn⟩ | ⟨xs, i, ho, hn⟩
  · simp only [hp, hn, ho] at ha
    split at ha <;> cases ha
    rfl
  · simp only [hp, hn, ho] at ha
    split at ha <;> cases ha
    rfl

end Treepath
