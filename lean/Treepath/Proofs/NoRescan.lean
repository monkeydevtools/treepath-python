import Treepath.Proofs.Distinct
import Treepath.Proofs.Work
/- "it never re-scans, restarts": on a tree, the match attempts of a search by a path of plain
steps with at most one recursive step are pairwise different — no (step, from-node, to-node)
triple is attempted twice. -/
namespace Treepath

/-- what identifies a match attempt of the search itself: the location of the node the step is
applied to, the index of the step in the path, the location it arrived at (or failure) -/
abbrev AKey := List Name × Nat × Option (List Name)

def topKey : Ev J → Option AKey
  | .attempt l vi nx none => some (l.loc, vi, nx.map MNode.loc)
  | _ => none

def topKeys (evs : List (Ev J)) : List AKey := evs.filterMap topKey

@[simp] theorem topKeys_nil : topKeys [] = [] := rfl
@[simp] theorem topKeys_append (a b : List (Ev J)) : topKeys (a ++ b) = topKeys a ++ topKeys b :=
  List.filterMap_append
@[simp] theorem topKeys_attempt (l : MNode J) (vi : Nat) (nx : Option (MNode J)) (t : List (Ev J)) :
    topKeys (.attempt l vi nx none :: t) = (l.loc, vi, nx.map MNode.loc) :: topKeys t := List.filterMap_cons_some rfl
@[simp] theorem topKeys_predCall (c : MNode J) (t : List (Ev J)) : topKeys (.predCall c :: t) = topKeys t :=
  List.filterMap_cons_none rfl
@[simp] theorem topKeys_result (c : MNode J) (t : List (Ev J)) : topKeys (.result c :: t) = topKeys t :=
  List.filterMap_cons_none rfl
@[simp] theorem topKeys_raised (e : Exc) (t : List (Ev J)) : topKeys (.raised e :: t) = topKeys t :=
  List.filterMap_cons_none rfl

theorem topKeys_ttr_sublist (evs : List (Ev J)) : (topKeys (takeThroughRaise evs)).Sublist (topKeys evs) :=
  (ttr_prefix evs).sublist.filterMap _

theorem topKey_eq_some {e : Ev J} {k : AKey} (h : topKey e = some k) : ∃ l vi nx, e = .attempt l vi nx none := by
  unfold topKey at h
  split at h
  · exact ⟨_, _, _, rfl⟩
  · cases h

theorem topKeys_of_stamped (evs : List (Ev J)) (h : attemptsTop evs = 0) : topKeys evs = [] :=
  filterMap_of_stamped (fun _ _ => topKey_eq_some) h

/-- how many levels below its start node the `j`-th step of a path is applied (filters stay on
their node, every other plain step descends one level); undefined from a recursive step on -/
def dsc : List (Step J) → Nat → Option Nat
  | [], _ => some 0
  | .recur :: _, _ => none
  | _ :: _, 0 => some 0
  | .filter _ :: rest, j+1 => dsc rest j
  | _ :: rest, j+1 => (dsc rest j).map (· + 1)

theorem dsc_zero {s : Step J} (hs : s.plain = true) (rest : List (Step J)) : dsc (s :: rest) 0 = some 0 := by
  cases s <;> simp [Step.plain] at hs <;> rfl

theorem dsc_succ {s : Step J} (hs : s.plain = true) (hf : s.cls ≠ .filter) (rest : List (Step J)) (j : Nat) :
    dsc (s :: rest) (j+1) = (dsc rest j).map (· + 1) := by
  cases s <;> simp [Step.plain] at hs <;> first | rfl | exact absurd rfl hf

theorem dsc_child {s : Step J} {rest : List (Step J)} (hs : s.plain = true) (hf : s.cls ≠ .filter) (j d : Nat)
    (hd : dsc (s :: rest) (j+1) = some d) : ∃ d', dsc rest j = some d' ∧ d = d' + 1 := by
  rw [dsc_succ hs hf, Option.map_eq_some_iff] at hd
  obtain ⟨d', hd', rfl⟩ := hd
  exact ⟨d', hd', rfl⟩

theorem dsc_plain (p : List (Step J)) (hp : ∀ s ∈ p, s.plain = true) : ∀ j, ∃ d, dsc p j = some d := by
  induction p with
  | nil => exact fun j => ⟨0, rfl⟩
  | cons s rest ih =>
    have hs := hp s (by simp)
    intro j
    cases j with
    | zero => exact ⟨0, dsc_zero hs rest⟩
    | succ j =>
      obtain ⟨d, hd⟩ := ih (fun t ht => hp t (List.mem_cons_of_mem _ ht)) j
      by_cases hf : s.cls = .filter
      · obtain ⟨f, rfl⟩ := Step.eq_filter_of_cls hf
        exact ⟨d, hd⟩
      · exact ⟨d + 1, by rw [dsc_succ hs hf, hd]; rfl⟩

/-- every key lies at or below location `l`, belongs to a step after index `vi`, and — where
the depth of that step is determined — sits exactly that deep below `l` -/
def Under (l : List Name) (vi : Nat) (p : List (Step J)) (ks : List AKey) : Prop :=
  ∀ k ∈ ks, l <+: k.1 ∧ vi < k.2.1 ∧ ∀ d, dsc p (k.2.1 - vi - 1) = some d → k.1.length = l.length + d

theorem Under.nil {l : List Name} {vi : Nat} {p : List (Step J)} : Under l vi p [] :=
  fun _ h => (List.not_mem_nil h).elim

theorem items_keys (l : List Name) (vi : Nat) (sub : Name × J → List AKey) :
    ∀ (its : List (Name × J)), (its.map Prod.fst).Nodup →
      (∀ it ∈ its, (sub it).Nodup ∧ ∀ k ∈ sub it, (l ++ [it.1]) <+: k.1) →
      (its.flatMap fun it : Name × J => ((l, vi+1, some (l ++ [it.1])) : AKey) :: sub it).Nodup ∧
        ∀ k ∈ (its.flatMap fun it : Name × J => ((l, vi+1, some (l ++ [it.1])) : AKey) :: sub it),
          ∃ it ∈ its, k = (l, vi+1, some (l ++ [it.1])) ∨ k ∈ sub it := by
  intro its hnd hsub
  refine ⟨List.pairwise_flatMap.mpr ⟨fun it hit => ?_, ?_⟩, fun k hk => ?_⟩
  · -- within one item: the attempt that reaches it lies above the keys below it
    exact List.nodup_cons.mpr ⟨fun hin => snoc_not_prefix l it.1 ((hsub it hit).2 _ hin), (hsub it hit).1⟩
  · -- across two items: their names differ, and every key shows the name of its item
    refine (List.Pairwise.and_mem.mp (List.pairwise_map.mp hnd)).imp ?_
    intro i1 i2 ⟨h1, h2, hne⟩ x hx y hy hxy
    subst hxy
    rcases List.mem_cons.mp hx with rfl | hx <;> rcases List.mem_cons.mp hy with hy | hy
    · exact hne (by simpa using hy)
    · exact snoc_not_prefix l i2.1 ((hsub i2 h2).2 _ hy)
    · rw [hy] at hx; exact snoc_not_prefix l i1.1 ((hsub i1 h1).2 _ hx)
    · exact loc_ne_of_prefixes hne ((hsub i1 h1).2 _ hx) ((hsub i2 h2).2 _ hy) rfl
  · obtain ⟨it, hit, hk⟩ := List.mem_flatMap.mp hk
    exact ⟨it, hit, (List.mem_cons.mp hk).imp_right id⟩

/-- what the sub-searches of the rest of the path (step indices after `vi+1`) satisfy -/
def KInv (rest : List (Step J)) (vi : Nat) : Prop :=
  ∀ m : MNode J, m.data.WFK →
    (topKeys (stream rest (vi+1) m)).Nodup ∧ Under m.loc (vi+1) rest (topKeys (stream rest (vi+1) m))

/-- keys produced below location `c` by a recursive step at index `vi+1`: the step's own attempts
(never arriving where they started), and the attempts of the rest of the path started from
some node `L` at or below `c`, at the depth that start and the step index determine -/
def SubInv (rest : List (Step J)) (vi : Nat) (c : List Name) (ks : List AKey) : Prop :=
  ∀ k ∈ ks, c <+: k.1 ∧
    ((k.2.1 = vi+1 ∧ k.2.2 ≠ some k.1) ∨
     (vi+1 < k.2.1 ∧ ∃ L d, c <+: L ∧ L <+: k.1 ∧ dsc rest (k.2.1 - (vi+1) - 1) = some d ∧ k.1.length = L.length + d))

theorem subInv_mono {rest : List (Step J)} {vi : Nat} {c c' : List Name} {ks : List AKey} (hc : c <+: c')
    (h : SubInv rest vi c' ks) : SubInv rest vi c ks := by
  intro k hk
  obtain ⟨h1, h2⟩ := h k hk
  refine ⟨hc.trans h1, ?_⟩
  rcases h2 with h2 | ⟨h2, L, d, a, b, e, f⟩
  · exact .inl h2
  · exact .inr ⟨h2, L, d, hc.trans a, b, e, f⟩

/-- the tail of one child's keys (everything after the attempt that reached the child) -/
def recTail (rest : List (Step J)) (vi : Nat) (n : MNode J) (it : Name × J) : List AKey :=
  (topKeys (recChild (fun m => stream rest (vi+1) m) rest.isEmpty vi n it.1 it.2)).tail

theorem body_keys (rest : List (Step J)) (hplain : ∀ s ∈ rest, s.plain = true) (vi : Nat) (hk : KInv rest vi)
    (m : MNode J) (hw : m.data.WFK) (its : List (Name × J)) (hnd : (its.map Prod.fst).Nodup)
    (hch : ∀ it ∈ its,
      topKeys (recChild (fun m => stream rest (vi+1) m) rest.isEmpty vi m it.1 it.2) =
        (m.loc, vi+1, some (m.loc ++ [it.1])) :: recTail rest vi m it ∧
      (recTail rest vi m it).Nodup ∧ SubInv rest vi (m.loc ++ [it.1]) (recTail rest vi m it)) :
    let B := topKeys (stream rest (vi+1) (.imag m) ++ recItems (fun m => stream rest (vi+1) m) rest.isEmpty vi m its
                ++ [.attempt m (vi+1) none none])
    B.Nodup ∧ SubInv rest vi m.loc B := by
  intro B
  obtain ⟨hKn, hKu⟩ := hk (.imag m) hw
  simp only [Under, MNode.loc] at hKu
  have hT := fun it hit => (hch it hit).2.2
  obtain ⟨hIn, hIm⟩ := items_keys m.loc vi (recTail rest vi m) its hnd
    (fun it hit => ⟨(hch it hit).2.1, fun k hk' => (hT it hit k hk').1⟩)
  have hI : topKeys (recItems (fun m => stream rest (vi+1) m) rest.isEmpty vi m its) =
      its.flatMap fun it : Name × J => ((m.loc, vi+1, some (m.loc ++ [it.1])) : AKey) :: recTail rest vi m it := by
    rw [recItems, topKeys, List.filterMap_flatMap]
    exact flatMap_congr' fun it hit => (hch it hit).1
  generalize (its.flatMap fun it : Name × J => ((m.loc, vi+1, some (m.loc ++ [it.1])) : AKey) :: recTail rest vi m it) = I
    at hIn hIm hI
  have hB : B = topKeys (stream rest (vi+1) (.imag m)) ++ (I ++ [(m.loc, vi+1, none)]) := by
    simp only [B, topKeys_append, hI, topKeys_attempt, topKeys_nil, Option.map_none, List.append_assoc]
  -- the step's own part: an attempt of the step at `m` itself, or a key below one of the children
  have hR : ∀ k ∈ I ++ [(m.loc, vi+1, none)],
      (k.1 = m.loc ∧ k.2.1 = vi+1 ∧ k.2.2 ≠ some k.1) ∨ ∃ it ∈ its, k ∈ recTail rest vi m it := by
    intro k hk'
    rcases List.mem_append.mp hk' with hk' | hk'
    · obtain ⟨it, hit, rfl | h'⟩ := hIm k hk'
      · exact .inl ⟨rfl, rfl, fun he => snoc_not_prefix m.loc it.1 (Option.some.inj he ▸ List.prefix_refl _)⟩
      · exact .inr ⟨it, hit, h'⟩
    · rw [List.mem_singleton.mp hk']
      exact .inl ⟨rfl, rfl, nofun⟩
  rw [hB]
  constructor
  · refine List.nodup_append.mpr ⟨hKn, List.nodup_append.mpr ⟨hIn, by simp, ?_⟩, ?_⟩
    · -- exhaustion at `m` is not an attempt that reached a child, nor a key below one
      intro a ha b hb hab
      rw [List.mem_singleton.mp hb] at hab
      subst hab
      obtain ⟨it, hit, h' | h'⟩ := hIm _ ha
      · cases h'
      · exact snoc_not_prefix m.loc it.1 (hT it hit _ h').1
    · -- a key of the rest of the path started at `m` belongs to a later step than the own
      -- attempts, and lies less deep than any key of that step started below a child
      intro a ha b hb hab
      subst hab
      obtain ⟨_, hidx, hlen⟩ := hKu a ha
      rcases hR a hb with ⟨_, h2, _⟩ | ⟨it, hit, h'⟩
      · exact Nat.lt_irrefl _ (h2 ▸ hidx)
      · rcases (hT it hit a h').2 with ⟨h2, _⟩ | ⟨_, L, d, hcL, _, hd, hlen'⟩
        · exact Nat.lt_irrefl _ (h2 ▸ hidx)
        · have := hlen d hd
          have := hcL.length_le
          rw [List.length_append, List.length_singleton] at this
          omega
  · intro k hk'
    rcases List.mem_append.mp hk' with hk' | hk'
    · obtain ⟨h1, h2, h3⟩ := hKu k hk'
      obtain ⟨d, hd⟩ := dsc_plain rest hplain (k.2.1 - (vi+1) - 1)
      exact ⟨h1, .inr ⟨h2, m.loc, d, List.prefix_refl _, h1, hd, h3 d hd⟩⟩
    · rcases hR k hk' with ⟨h1, h2, h3⟩ | ⟨it, hit, h'⟩
      · exact ⟨h1 ▸ List.prefix_refl _, .inl ⟨h2, h3⟩⟩
      · exact subInv_mono (List.prefix_append _ _) (hT it hit) k h'

theorem recTail_eq (rest : List (Step J)) (vi : Nat) (n c : MNode J) (nm : Name) (x : J) (evs : List (Ev J))
    (hc : c.loc = n.loc ++ [nm])
    (he : recChild (fun m => stream rest (vi+1) m) rest.isEmpty vi n nm x = .attempt n (vi+1) (some c) none :: evs) :
    topKeys (recChild (fun m => stream rest (vi+1) m) rest.isEmpty vi n nm x) =
      (n.loc, vi+1, some (n.loc ++ [nm])) :: recTail rest vi n (nm, x) ∧ recTail rest vi n (nm, x) = topKeys evs := by
  have : recTail rest vi n (nm, x) = topKeys evs := by rw [recTail, he, topKeys_attempt, List.tail_cons]
  rw [this, he, topKeys_attempt, Option.map_some, hc]
  exact ⟨rfl, rfl⟩

theorem child_keys (rest : List (Step J)) (hplain : ∀ s ∈ rest, s.plain = true) (vi : Nat) (hk : KInv rest vi) :
    ∀ (N : Nat) (x : J), J.sz x ≤ N → x.WFK → ∀ (n : MNode J) (nm : Name),
      topKeys (recChild (fun m => stream rest (vi+1) m) rest.isEmpty vi n nm x) =
        (n.loc, vi+1, some (n.loc ++ [nm])) :: recTail rest vi n (nm, x) ∧
      (recTail rest vi n (nm, x)).Nodup ∧ SubInv rest vi (n.loc ++ [nm]) (recTail rest vi n (nm, x)) := by
  intro N x hx
  clear hx
  induction x using J.items_induction with
  | scalar x hc =>
    intro _ n nm
    obtain ⟨h1, h2⟩ := recTail_eq rest vi n (.child n nm x) nm x _ rfl
      (recChild_scalar hc)
    refine ⟨h1, ?_⟩
    rw [h2]
    cases rest.isEmpty with
    | true => exact ⟨.nil, fun _ h => (List.not_mem_nil h).elim⟩
    | false =>
      refine ⟨List.nodup_cons.mpr ⟨List.not_mem_nil, .nil⟩, fun k hk' => ?_⟩
      rw [List.mem_singleton.mp hk']
      exact ⟨List.prefix_refl _, .inl ⟨rfl, nofun⟩⟩
  | container x its hc ih =>
    intro hwx n nm
    obtain ⟨h1, h2⟩ := recTail_eq rest vi n (.imag (.child n nm x)) nm x _ rfl
      (recChild_container hc)
    obtain ⟨hnd, hwf⟩ := allItems_wf x hwx its hc
    obtain ⟨hBn, hBs⟩ := body_keys rest hplain vi hk (.child n nm x) hwx its hnd
      fun it hit => ih it hit (hwf it hit) (.child n nm x) it.1
    refine ⟨h1, ?_⟩
    rw [h2]
    exact ⟨hBn, hBs⟩

/-- plain steps with at most one recursive step -/
def okShape : List (Step J) → Bool
  | [] => true
  | .recur :: rest => rest.all Step.plain
  | s :: rest => s.plain && okShape rest

theorem okShape_of_plain (p : List (Step J)) (h : ∀ s ∈ p, s.plain = true) : okShape p = true := by
  induction p with
  | nil => rfl
  | cons s rest ih =>
    have hs := h s (by simp)
    have hr := ih (fun t ht => h t (List.mem_cons_of_mem _ ht))
    cases s <;> simp [Step.plain] at hs <;> simp [okShape, Step.plain, hr]

theorem okShape_cons {s : Step J} {rest : List (Step J)} (hc : s.cls ≠ .recur) (h : okShape (s :: rest) = true) :
    s.plain = true ∧ okShape rest = true := by
  cases s with
  | recur => exact absurd rfl hc
  | _ => exact Bool.and_eq_true_iff.mp h

theorem Under.append {l : List Name} {vi : Nat} {p : List (Step J)} {a b : List AKey}
    (ha : Under l vi p a) (hb : Under l vi p b) : Under l vi p (a ++ b) :=
  fun k hk => (List.mem_append.mp hk).elim (ha k) (hb k)

theorem under_fail (l : List Name) (vi : Nat) {p : List (Step J)} (h0 : dsc p 0 = some 0) {o : Option (List Name)} :
    Under l vi p [(l, vi+1, o)] := by
  intro k hk
  simp only [List.mem_singleton] at hk
  subst hk
  refine ⟨List.prefix_refl _, by simp, ?_⟩
  intro d hd
  simp only [Nat.add_sub_cancel_left, Nat.sub_self, h0, Option.some.injEq] at hd
  subst hd; rfl

/-- from a recursive step on no depth is determined -/
theorem under_recur {l : List Name} {vi : Nat} {rest : List (Step J)} {ks : List AKey}
    (h : ∀ k ∈ ks, l <+: k.1 ∧ vi < k.2.1) : Under l vi (.recur :: rest) ks :=
  fun k hk => ⟨(h k hk).1, (h k hk).2, nofun⟩

/-- the attempt of the first step that arrives at `l'`, `e` levels below `l`, followed by the
keys of the rest of the path from there -/
theorem under_reach {s : Step J} {rest : List (Step J)} {l l' : List Name} {vi e : Nat} {ks : List AKey}
    (h0 : dsc (s :: rest) 0 = some 0) (hd : ∀ j d, dsc (s :: rest) (j+1) = some d → ∃ d', dsc rest j = some d' ∧ d = d' + e)
    (hpre : l <+: l') (hlen : l'.length = l.length + e) (hn : ks.Nodup) (hu : Under l' (vi+1) rest ks) :
    ((l, vi+1, some l') :: ks).Nodup ∧ Under l vi (s :: rest) ((l, vi+1, some l') :: ks) := by
  constructor
  · refine List.nodup_cons.mpr ⟨fun hin => ?_, hn⟩
    have := (hu _ hin).2.1
    simp at this
  · intro k hk
    rcases List.mem_cons.mp hk with rfl | hk
    · exact under_fail l vi h0 _ (List.mem_singleton_self _)
    · obtain ⟨a, b, c⟩ := hu k hk
      refine ⟨hpre.trans a, Nat.lt_of_succ_lt b, ?_⟩
      intro d hd'
      rw [Nat.sub_sub, ← Nat.sub_add_cancel (Nat.sub_pos_of_lt b)] at hd'
      obtain ⟨d', hd'', rfl⟩ := hd _ d hd'
      rw [c d' hd'', hlen, Nat.add_right_comm, Nat.add_assoc]

theorem step_items_keys {s : Step J} {rest : List (Step J)} (hsp : s.plain = true) (hf : s.cls ≠ .filter)
    (n : MNode J) (vi : Nat) (its : List (Name × J)) (hnd : (its.map Prod.fst).Nodup)
    (hsub : ∀ it ∈ its, (topKeys (stream rest (vi+1) (.child n it.1 it.2))).Nodup ∧
      Under (n.loc ++ [it.1]) (vi+1) rest (topKeys (stream rest (vi+1) (.child n it.1 it.2)))) :
    let ks := topKeys ((its.flatMap fun it => .attempt n (vi+1) (some (.child n it.1 it.2)) none ::
      stream rest (vi+1) (.child n it.1 it.2)) ++ [.attempt n (vi+1) none none])
    ks.Nodup ∧ Under n.loc vi (s :: rest) ks := by
  intro ks
  obtain ⟨hn, hm⟩ := items_keys n.loc vi (fun it => topKeys (stream rest (vi+1) (.child n it.1 it.2))) its hnd
    (fun it hit => ⟨(hsub it hit).1, fun k hk => ((hsub it hit).2 k hk).1⟩)
  have hfm : topKeys (its.flatMap fun x => Ev.attempt n (vi+1) (some (.child n x.1 x.2)) none :: stream rest (vi+1) (.child n x.1 x.2)) =
      its.flatMap (fun it : Name × J => ((n.loc, vi+1, some (n.loc ++ [it.1])) : AKey) :: topKeys (stream rest (vi+1) (.child n it.1 it.2))) := by
    rw [topKeys, List.filterMap_flatMap]; rfl
  show (topKeys _).Nodup ∧ Under _ _ _ (topKeys _)
  rw [topKeys_append, topKeys_attempt, hfm]
  constructor
  · refine List.nodup_append.mpr ⟨hn, by simp, ?_⟩
    intro a ha b hb hab
    subst hab
    simp only [topKeys_nil, List.mem_singleton] at hb
    obtain ⟨it, hit, h'⟩ := hm a ha
    rcases h' with h' | h'
    · rw [hb] at h'; simp at h'
    · have := ((hsub it hit).2 a h').2.1
      rw [hb] at this
      simp at this
  · refine Under.append (fun k hk => ?_) (under_fail n.loc vi (dsc_zero hsp rest))
    obtain ⟨it, hit, hk'⟩ := List.mem_flatMap.mp hk
    exact (under_reach (dsc_zero hsp rest) (dsc_child hsp hf) (List.prefix_append _ _) (by simp)
      (hsub it hit).1 (hsub it hit).2).2 k hk'

/-- **no attempt twice**: on a document whose dicts have unique keys, the attempts of the search
for a path of keys, indices, slices, wildcards and filters (whose predicates' own attempts are
stamped) with at most one recursive step are pairwise different; all lie at or below the start
node and belong to later steps -/
theorem stream_keys (p : List (Step J)) (hp : okShape p = true) (hs : PredsStamped p) :
    ∀ (vi : Nat) (n : MNode J), n.data.WFK →
      (topKeys (stream p vi n)).Nodup ∧ Under n.loc vi p (topKeys (stream p vi n)) := by
  intro vi n hw
  induction p, vi, n using stream_induction with
  | nil => exact ⟨.nil, Under.nil⟩
  | miss s rest vi n hc _ he | wrongKind s rest vi n hc _ he =>
    rw [he, topKeys_attempt]
    exact ⟨by simp, under_fail _ _ (dsc_zero (okShape_cons (by simp [hc]) hp).1 rest)⟩
  | hit s rest vi n n' hc hso he ih =>
    obtain ⟨hsp, hrest⟩ := okShape_cons (by simp [hc]) hp
    have hch : s.isChild = true := by
      cases s with
      | key _ | idx _ => rfl
      | parent => cases hsp
      | _ => cases hc
    have hf : s.cls ≠ .filter := by simp [hc]
    obtain ⟨nm, x, hx, rfl⟩ := singleOf_child J.view s n n' hch hso
    obtain ⟨h1, h2⟩ := ih hrest hs.tail (hw.value (childAt_value hx))
    rw [he, topKeys_attempt]
    exact under_reach (dsc_zero hsp rest) (dsc_child hsp hf) (List.prefix_append _ _) (by simp [MNode.loc]) h1 h2
  | filter f rest vi n he ih =>
    obtain ⟨hsp, hrest⟩ := okShape_cons (s := .filter f) nofun hp
    have hst : topKeys (f n).evs = [] := topKeys_of_stamped _ (hs (.filter f) (by simp) f rfl n)
    simp only [he, topKeys_predCall, topKeys_append, hst, List.nil_append]
    cases (f n).res with
    | val j =>
      by_cases ht : j.truthy = true
      · obtain ⟨h1, h2⟩ := ih hrest hs.tail hw
        simp only [ht, if_true, topKeys_attempt]
        exact under_reach (e := 0) (dsc_zero hsp rest) (fun j d hd => ⟨d, hd, rfl⟩) (List.prefix_refl _) rfl h1 h2
      · simp only [ht]
        exact ⟨by simp, under_fail _ _ (dsc_zero hsp rest)⟩
    | raise e => exact ⟨.nil, Under.nil⟩
  | valueError _ _ _ _ _ _ he => rw [he]; exact ⟨.nil, Under.nil⟩
  | items s rest vi n its hc hio he ih =>
    obtain ⟨hsp, hrest⟩ := okShape_cons (by simp [hc]) hp
    have hf : s.cls ≠ .filter := by simp [hc]
    obtain ⟨hnd, hwf⟩ := itemsOf_wf s (fun ns e => by subst e; cases hsp) _ hw its hio
    have hsub : ∀ it ∈ its, (topKeys (stream rest (vi+1) (.child n it.1 it.2))).Nodup ∧
        Under (n.loc ++ [it.1]) (vi+1) rest (topKeys (stream rest (vi+1) (.child n it.1 it.2))) :=
      fun it hit => ih it.1 it.2 hrest hs.tail (hwf it hit)
    rw [he]
    exact step_items_keys hsp hf n vi its hnd hsub
  | recur rest vi n hnc he ih =>
    simp only [okShape] at hp
    have hplain : ∀ t ∈ rest, t.plain = true := by simpa [List.all_eq_true] using hp
    have hk : KInv rest vi := fun m hm => ih m (okShape_of_plain rest hplain) hs.tail hm
    obtain ⟨its, hc⟩ := Option.isSome_iff_exists.mp (by rw [allItems_isContainer, hnc] : (allItems n.data.view).isSome)
    obtain ⟨hnd, hwf⟩ := allItems_wf n.data hw its hc
    obtain ⟨hBn, hBs⟩ := body_keys rest hplain vi hk n hw its hnd fun it hit =>
      child_keys rest hplain vi hk (J.sz it.2) it.2 (Nat.le_refl _) (hwf it hit) n it.1
    simp only [he, recBody_items hc, topKeys_attempt]
    refine ⟨List.nodup_cons.mpr ⟨fun hin => ?_, hBn⟩, under_recur fun k hk' => ?_⟩
    · -- the attempt that reaches the twin of `n` arrives where it started; no key of the body does
      rcases (hBs _ hin).2 with ⟨_, h2⟩ | ⟨h2, _⟩
      · exact h2 rfl
      · exact Nat.lt_irrefl _ h2
    · rcases List.mem_cons.mp hk' with rfl | hk'
      · exact ⟨List.prefix_refl _, Nat.lt_succ_self _⟩
      · obtain ⟨h1, h2⟩ := hBs k hk'
        refine ⟨h1, ?_⟩
        rcases h2 with ⟨h2, _⟩ | ⟨h2, _⟩
        · exact h2 ▸ Nat.lt_succ_self _
        · exact Nat.lt_of_succ_lt h2
  | recurScalar rest vi n _ he =>
    rw [he, topKeys_attempt]
    refine ⟨List.nodup_cons.mpr ⟨List.not_mem_nil, .nil⟩, under_recur fun k hk' => ?_⟩
    rw [List.mem_singleton.mp hk']
    exact ⟨List.prefix_refl _, Nat.lt_succ_self _⟩

end Treepath
