import Treepath.Proofs.HasRefineX
import Treepath.Proofs.Work
import Treepath.Proofs.Invariant
/-
The action budget of `__next__` is never the reason a search over a tree fails once it exceeds a
small multiple of the work the definition requires: among any three consecutive actions one is a
match attempt (pacing); all attempts of a run are attempts of the specification's stream
(`full_run`), at most `2 · exams` (`work_bound`); no defensive (`bug`) branch is reachable from a
fresh iterator.  Hence `drain` (= `list(find_matches(...))`) *is* `eval` whenever `6 · exams + 3 < limit`.
-/
namespace Treepath
variable {α : Type}

/-- actions still to go before the next match attempt, at most -/
def AS.pot : AS α → Nat
  | .init => 3
  | .report _ _ _ _ => 2
  | .catch_ _ => 1
  | _ => 0

theorem AS.pot_le (as : AS α) : as.pot ≤ 3 := by cases as <;> simp [AS.pot]
@[simp] theorem resume_pot (stk : List (Frame α)) : (resume stk).pot = 0 := by cases stk <;> rfl
@[simp] theorem pot_init : (AS.init : AS α).pot = 3 := rfl
@[simp] theorem pot_report (n : MNode α) (a b : Nat) (stk : List (Frame α)) : (AS.report n a b stk).pot = 2 := rfl
@[simp] theorem pot_catch (stk : List (Frame α)) : (AS.catch_ stk).pot = 1 := rfl
@[simp] theorem pot_attempt (n : MNode α) (a : Nat) (stk : List (Frame α)) : (AS.attempt n a stk).pot = 0 := rfl
@[simp] theorem pot_parked (stk : List (Frame α)) : (AS.parked stk).pot = 0 := rfl
@[simp] theorem pot_done : (AS.done : AS α).pot = 0 := rfl

section
variable (view : α → View α) (steps : Array (Step α)) (src : Src α)

theorem Iterated.pace {n : MNode α} {vi : Nat} {stk : List (Frame α)} {its : List (Name × α)}
    {out : AS α × List (Ev α) × Sig α} (h : Iterated view n vi stk its out) :
    1 + out.1.pot ≤ 3 * attemptsTop out.2.1 := by
  cases h <;> simp [attemptsTop_attempt]

/-- **pacing**: an action that neither stops, raises nor hits a defensive branch pays for
itself with the potential or with a match attempt -/
theorem astep_pace (as : AS α)
    (h : (astep view steps src as).2.2 = .none ∨ ∃ n, (astep view steps src as).2.2 = .result n) :
    1 + (astep view steps src as).1.pot ≤ as.pot + 3 * attemptsTop (astep view steps src as).2.1 := by
  have hs := astep_spec view steps src as
  generalize astep view steps src as = out at h hs ⊢
  cases hs with
  | init | catch_ | toAttempt => simp
  | result => simp [attemptsTop_result]
  | done | emptyStack | outOfRange => simp at h
  | parked hit => have := hit.pace; simp only [pot_parked]; omega
  | attempt hat =>
    simp only [pot_attempt]
    cases hat with
    | bug | raised => simp at h
    | iter _ _ _ _ _ hit => have := hit.pace; omega
    | miss | kept => simp [attemptsTop_append, attemptsTop_attempt]; omega
    | single | recur => simp [attemptsTop_attempt]

def GoodStk (stk : List (Frame α)) : Prop := ∀ fr ∈ stk, fr.vidx < steps.size

/-- indices in range, so that no defensive branch is met.  `vertex` and `vidx` differ only for the
scalar child of a recursive step, created with `vertex_index - 1`: hence the separate bound on
`vidx` when the focus is not yet a result -/
def Good : AS α → Prop
  | .init => True
  | .report _ vertex vidx stk => vertex ≤ steps.size ∧ (vertex < steps.size → vidx < steps.size) ∧ GoodStk steps stk
  | .catch_ stk => GoodStk steps stk
  | .attempt _ vidx stk => vidx < steps.size ∧ GoodStk steps stk
  | .parked stk => stk ≠ [] ∧ GoodStk steps stk
  | .done => True

theorem resume_good (stk : List (Frame α)) (h : GoodStk steps stk) : Good steps (resume stk) := by
  cases stk with
  | nil => trivial
  | cons fr stk => exact ⟨by simp, h⟩

theorem Iterated.good {n : MNode α} {vi : Nat} {stk : List (Frame α)} {its : List (Name × α)}
    {out : AS α × List (Ev α) × Sig α} (h : Iterated view n vi stk its out)
    (hv : vi < steps.size) (hs : GoodStk steps stk) : Good steps out.1 ∧ ∀ m, out.2.2 ≠ .bug m := by
  refine ⟨?_, by cases h <;> exact nofun⟩
  cases h with
  | exhausted => exact resume_good steps stk hs
  | item nm x tl vidx' hle => exact ⟨hv, fun h' => Nat.lt_of_le_of_lt hle h', List.forall_mem_cons.2 ⟨hv, hs⟩⟩
  | container => exact ⟨hv, id, List.forall_mem_cons.2 ⟨hv, List.forall_mem_cons.2 ⟨hv, hs⟩⟩⟩

theorem astep_good (as : AS α) (hg : Good steps as) :
    Good steps (astep view steps src as).1 ∧ ∀ m, (astep view steps src as).2.2 ≠ .bug m := by
  have hsp := astep_spec view steps src as
  generalize astep view steps src as = out at hsp ⊢
  cases hsp with
  | init => exact ⟨⟨Nat.zero_le _, id, fun x hx => (List.not_mem_nil hx).elim⟩, nofun⟩
  | done => exact ⟨trivial, nofun⟩
  | result => exact ⟨hg.2.2, nofun⟩
  | toAttempt hne => exact ⟨⟨hg.2.1 (Nat.lt_of_le_of_ne hg.1 hne), hg.2.2⟩, nofun⟩
  | catch_ => exact ⟨resume_good steps _ hg, nofun⟩
  | emptyStack => exact absurd rfl hg.1
  | outOfRange hnone => simp [(List.forall_mem_cons.1 hg.2).1] at hnone
  | parked hit => exact hit.good view steps (List.forall_mem_cons.1 hg.2).1 (List.forall_mem_cons.1 hg.2).2
  | @attempt n vidx stk out h =>
    obtain ⟨hv, hs⟩ := hg
    have hrep : ∀ n' stk', GoodStk steps stk' → Good steps (.report n' (vidx+1) (vidx+1) stk') :=
      fun _ _ h' => ⟨hv, id, h'⟩
    cases h with
    | bug m hnone => simp [hv] at hnone
    | raised => exact ⟨⟨hv, hs⟩, by simp⟩
    | miss => exact ⟨resume_good steps stk hs, by simp⟩
    | kept => exact ⟨hrep _ _ hs, by simp⟩
    | single => exact ⟨hrep _ _ hs, by simp⟩
    | recur => exact ⟨hrep _ _ (List.forall_mem_cons.2 ⟨hv, hs⟩), by simp⟩
    | iter _ _ _ _ _ hit => exact hit.good view steps hv hs

/-- a `next()` from a reachable state never takes a defensive branch -/
theorem next_no_bug (limit : Nat) (st : St α) (as : AS α) (hR : R steps st as) (hg : Good steps as)
    (st' : St α) (evs : List (Ev α)) (m : String) :
    next view steps src limit st ≠ (st', evs, .bug m) := by
  intro h
  have := (next_inv view steps src _ (fun sig => ∀ m, sig ≠ .bug m) (astep_good view steps src) (by simp)
    limit st as hR hg).2 m
  simp [h] at this

/-- a `next()` that ends in `InfiniteLoopDetected` performed `limit` actions, and these
contain at least `(limit - 3) / 3` match attempts -/
theorem next_loop_paces (limit : Nat) (st : St α) (as : AS α) (hR : R steps st as) (st' : St α) (evs : List (Ev α))
    (h : next view steps src limit st = (st', evs, .raised .loopDetected)) :
    ∃ E, evs = E ++ [.raised .loopDetected] ∧ hrun view steps src limit st = (st', E) ∧
      limit ≤ as.pot + 3 * attemptsTop E := by
  -- an action that does not end the call pays for itself (`astep_pace`, through the bisimulation)
  have hpace : ∀ {st : St α} {as : AS α} {s1 e1 sig}, R steps st as → action view steps src st = (s1, e1, sig) →
      (sig = .none ∨ ∃ n, sig = .result n) →
      R steps s1 (astep view steps src as).1 ∧ 1 + (astep view steps src as).1.pot ≤ as.pot + 3 * attemptsTop e1 := by
    intro st as s1 e1 sig hR ha hs
    obtain ⟨hR1, hev⟩ := bisim steps view src st as hR
    rw [ha] at hR1 hev
    have := astep_pace view steps src as (by rw [← hev]; exact hs)
    rw [← hev] at this
    exact ⟨hR1, this⟩
  -- the six cases of `next`, as at `next_cases`
  fun_induction next view steps src limit st generalizing as st' evs with
  | case1 st => cases h; exact ⟨[], rfl, rfl, Nat.zero_le _⟩
  | case2 st s1 e1 ha =>
    cases h
    exact ⟨e1, rfl, by simp [hrun, ha], by have := (hpace hR ha (.inl rfl)).2; omega⟩
  | case3 limit st s1 e1 ha _ s2 e2 sig2 hn ih =>
    cases h
    obtain ⟨hR1, hp⟩ := hpace hR ha (.inl rfl)
    obtain ⟨E, rfl, hrunE, hle⟩ := ih _ hR1 _ _ hn
    exact ⟨e1 ++ E, (List.append_assoc ..).symm, by simp [hrun, ha, hrunE], by rw [attemptsTop_append]; omega⟩
  | case4 st s1 e1 n ha =>
    cases h
    exact ⟨e1, rfl, by simp [hrun, ha], by have := (hpace hR ha (.inr ⟨n, rfl⟩)).2; omega⟩
  | case5 => cases h
  | case6 limit st =>
    -- an action that raises raises what a step raises (`StepRaises`), never `InfiniteLoopDetected`
    cases action_cases h with
    | raises _ _ _ _ _ hsh => cases hsh

/-- the same, for callers that know that no action raises -/
theorem next_loop_pace (hq : ∀ st s1 e1 e, action view steps src st ≠ (s1, e1, .raised e))
    (limit : Nat) (st : St α) (as : AS α) (hR : R steps st as) (st' : St α) (evs : List (Ev α))
    (h : next view steps src limit st = (st', evs, .raised .loopDetected)) :
    ∃ E, evs = E ++ [.raised .loopDetected] ∧ hrun view steps src limit st = (st', E) ∧
      limit ≤ as.pot + 3 * attemptsTop E :=
  next_loop_paces view steps src limit st as hR st' evs h

end

section
variable (steps : Array (Step J)) (src : Src J)

theorem yields_R (hp : PredsClean steps) (limit : Nat) (st' : St J) (rs : List (MNode J)) (E : List (Ev J))
    (hy : Yields J.view steps src limit freshIter rs E st') :
    ∃ j as, hrun J.view steps src j freshIter = (st', E) ∧ R steps st' as ∧ Good steps as := by
  obtain ⟨j, hj, _⟩ := yields_run hp hy
  obtain ⟨hR, _⟩ := hrun_bisim J.view steps src j freshIter .init (.init _ rfl)
  rw [hj] at hR
  exact ⟨j, _, hj, hR, arun_inv J.view steps src _ (fun as h => (astep_good J.view steps src as h).1) j .init trivial⟩

/-- **the budget is not hit**: after any number of successful calls on a fresh iterator over
a tree, the next call does not raise `InfiniteLoopDetected`, provided the per-call budget
exceeds three times the attempts of the specification's stream (plus three) -/
theorem no_loop_under_budget (hq : Quiet steps.toList) (hp : PredsClean steps) (limit : Nat)
    (hb : 3 * attemptsTop (stream steps.toList 0 src.rootNode) + 3 < limit)
    (st' st'' : St J) (rs : List (MNode J)) (E evs : List (Ev J))
    (hy : Yields J.view steps src limit freshIter rs E st') :
    next J.view steps src limit st' ≠ (st'', evs, .raised .loopDetected) := by
  intro hn
  obtain ⟨j, as, hj, hR, _⟩ := yields_R steps src hp limit st' rs E hy
  obtain ⟨E', _, hrunE, hle⟩ := next_loop_paces J.view steps src limit st' as hR st'' evs hn
  have hpot := as.pot_le
  obtain ⟨k, stD, hfull, hdone⟩ := full_run steps src hq
  have htot : hrun J.view steps src (j + limit) freshIter = (st'', E ++ E') := by
    rw [hrun_add, hj, hrunE]
  -- the attempts made are attempts of the stream: the whole run emits it, then only `stop`
  have hF := action_done J.view steps src hdone
  have hbound : attemptsTop E' ≤ attemptsTop (stream steps.toList 0 src.rootNode) := by
    rcases hrun_cmp hfull hF htot with ⟨Y, hY, _⟩ | ⟨_, m, hE⟩
    · rw [hY, attemptsTop_append, attemptsTop_append]
      omega
    · have h0 : attemptsTop ([Ev.stop] ++ (List.replicate m [(Ev.stop : Ev J)]).flatten) = 0 :=
        attemptsTop_eq_zero.mpr fun l vi nx hm => by simp at hm
      have := congrArg attemptsTop hE
      rw [List.append_assoc, attemptsTop_append, attemptsTop_append, h0] at this
      omega
  omega

theorem next_ok_under_budget (hq : Quiet steps.toList) (hp : PredsClean steps) (limit : Nat)
    (hb : 3 * attemptsTop (stream steps.toList 0 src.rootNode) + 3 < limit)
    (st st' : St J) (rs : List (MNode J)) (E evs : List (Ev J)) (sig : Sig J)
    (hy : Yields J.view steps src limit freshIter rs E st)
    (hn : next J.view steps src limit st = (st', evs, sig)) : (∃ n, sig = .result n) ∨ sig = .stop := by
  cases sig with
  | result n => exact .inl ⟨n, rfl⟩
  | stop => exact .inr rfl
  | raised e =>
    have he := next_raised_quiet steps src hq limit st st' evs e hn
    subst he
    exact absurd hn (no_loop_under_budget steps src hq hp limit hb st st' rs E evs hy)
  | none => exact absurd hn (next_not_none J.view steps src limit st st' evs)
  | bug m =>
    obtain ⟨j, as, _, hR, hg⟩ := yields_R steps src hp limit st rs E hy
    exact absurd hn (next_no_bug J.view steps src limit st as hR hg st' evs m)

/-- **`list(find_matches(path, tree))` is the definition's answer** — the only premise about the
budget is an explicit inequality: for every JSON tree and every quiet path whose predicates emit
clean, stamped events, if the per-call action budget exceeds `6 · exams + 3` (`exams` = the
(node, step) examinations the definition itself performs), draining the pointer machine
returns exactly `eval`, with no error. -/
theorem drain_is_eval (cx : Ctx J) (hv : cx.view = J.view) (hq : Quiet steps.toList) (hp : PredsClean steps)
    (hs : PredsStamped steps.toList)
    (hb : 6 * exams steps.toList src.rootNode + 3 < cx.limit) :
    ∀ (fuel : Nat) (st : St J) (rs : List (MNode J)) (E : List (Ev J)) (rest : List (MNode J)),
      Yields J.view steps src cx.limit freshIter rs E st →
      eval steps.toList src.rootNode = rs ++ rest → rest.length < fuel →
      drain cx steps src fuel st = (rest, none) := by
  have hwork := work_bound steps.toList hs 0 src.rootNode
  have hb' : 3 * attemptsTop (stream steps.toList 0 src.rootNode) + 3 < cx.limit := by omega
  intro fuel
  induction fuel with
  | zero => intro st rs E rest _ _ hlt; omega
  | succ fuel ih =>
    intro st rs E rest hy hev hlt
    have hev' : evalE steps.toList src.rootNode = (rs ++ rest, none) :=
      Prod.ext hev (evalE_quiet _ hq _)
    unfold drain nextOut
    rw [hv]
    rcases hn : next J.view steps src cx.limit st with ⟨st', evs, sig⟩
    rcases next_ok_under_budget steps src hq hp cx.limit hb' st st' rs E evs sig hy hn with ⟨n, rfl⟩ | rfl
    · obtain ⟨rest', rfl⟩ := yields_next_result hp hy hn hev'
      have := ih st' (rs ++ [n]) _ rest' (Yields.snoc steps src hy hn) (by simp [hev])
        (by simp at hlt; omega)
      simp only [this]
    · obtain ⟨rfl, _⟩ := yields_next_stop hp hy hn hev'
      simp

end

/-- **`has` = `hasS`, outright**, under an explicit budget inequality: an infrastructure
outcome would need a `next()` of the nested search to fail, and under the budget none does -/
theorem has_exact (cx : Ctx J) (hv : cx.view = J.view) (hj : cx.toJ = id) (ss : List (Step J))
    (hq : Quiet ss) (hp : PredsClean ss.toArray) (hs : PredsStamped ss) (op : Option Fn) (fns : List Fn) (c : MNode J)
    (hb : 6 * exams ss (.imag c) + 3 < cx.limit) (hf : (eval ss (.imag c)).length < cx.fuel) :
    (has cx ss op fns c).res = (hasS ss op fns c).res := by
  rcases has_refines_why cx hv hj ss hp op fns c with h | ⟨_, h⟩
  · exact h
  obtain ⟨rs, E, st, st', evs, sig, hy, hn, hsig⟩ := h hf
  have hwork := work_bound ss hs 0 (.imag c)
  have := next_ok_under_budget ss.toArray (.nested c) (by simpa using hq) hp cx.limit
    (by simp only [Src.rootNode]; omega) st st' rs E evs sig hy hn
  -- the three ways a `next()` fails (`NextFailed`): the loop budget, no signal, a defensive branch; under the budget
  -- it gives a result or `stop`, none of these
  rcases hsig with rfl | rfl | ⟨m, rfl⟩ <;> simp at this

end Treepath
