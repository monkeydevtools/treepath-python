import Treepath.Proofs.MachineLemmas
import Treepath.Proofs.Stack
import Treepath.Proofs.StepLemmas
/-
Pointer half of the refinement: the heap machine of `Machine.lean` (cells with the three
mutable slots, `remember_on_catch` / `restore_on_catch`) runs in lock step with the stack
machine of `Stack.lean`, action for action, with equal events and signals.  Generic in `α`.
-/
namespace Treepath
variable {α : Type}

abbrev Hp (α : Type) := Array (TM α)

section
variable (steps : Array (Step α)) (rp : Option Nat)

/-- the resume pointer `(ocm, oca)` denotes the stack of suspended iterations.  A parked cell's
real parent `q` lies below it (`q < m`) and `q`'s own pointer at or below `q`: so the relation
reads only cells at or below the pointer (`Resume.congr`) and survives writes above it.  The
bottom frame is the one parked on the root cell `rp`, which has no real parent.  A parked cell's
step exists and iterates (a multi-valued step or `recur`): re-entering the cell, `bisim` reads
that step on both machines and never meets the stack machine's out-of-range branch. -/
inductive Resume : Hp α → Option Nat → Act → List (Frame α) → Prop where
  | done (h : Hp α) (x : Option Nat) : Resume h x .done []
  | frameRoot (h : Hp α) (m : Nat) (tm : TM α) (fr : Frame α) :
      h[m]? = some tm → tm.catchState = some fr.items → tm.ocm = some m → tm.oca = .match_ →
      tm.node = fr.owner → tm.vidx = fr.vidx →
      (∃ s, steps[tm.vidx]? = some s ∧ s.iterates = true) →
      tm.realParent = none → rp = some m →
      Resume h (some m) .match_ [fr]
  | frameInner (h : Hp α) (m : Nat) (tm : TM α) (fr : Frame α) (q : Nat) (tq : TM α) (stk : List (Frame α)) :
      h[m]? = some tm → tm.catchState = some fr.items → tm.ocm = some m → tm.oca = .match_ →
      tm.node = fr.owner → tm.vidx = fr.vidx →
      (∃ s, steps[tm.vidx]? = some s ∧ s.iterates = true) →
      tm.realParent = some q → q < m → rp ≠ some m → h[q]? = some tq → (∀ x, tq.ocm = some x → x ≤ q) →
      Resume h tq.ocm tq.oca stk →
      Resume h (some m) .match_ (fr :: stk)

theorem Resume.congr {h h' : Hp α} {o : Option Nat} {a : Act} {stk : List (Frame α)} (b : Nat)
    (hb : ∀ i, i ≤ b → h'[i]? = h[i]?) (hr : Resume steps rp h o a stk) (ho : ∀ m, o = some m → m ≤ b) :
    Resume steps rp h' o a stk := by
  induction hr generalizing b with
  | done => exact .done _ _
  | frameRoot m tm fr h1 h2 h3 h4 h5 h6 hs h7 h8 =>
    have hm := ho m rfl
    exact .frameRoot h' m tm fr (by rw [hb m hm]; exact h1) h2 h3 h4 h5 h6 hs h7 h8
  | frameInner m tm fr q tq stk h1 h2 h3 h4 h5 h6 hs h7 h8 h8' h9 h10 _ ih =>
    have hm := ho m rfl
    refine .frameInner h' m tm fr q tq stk (by rw [hb m hm]; exact h1) h2 h3 h4 h5 h6 hs h7 h8 h8'
      (by rw [hb q (Nat.le_trans (Nat.le_of_lt h8) hm)]; exact h9) h10 ?_
    exact ih q (fun i hi => hb i (Nat.le_trans hi (Nat.le_trans (Nat.le_of_lt h8) hm))) h10

theorem Resume.done_nil {h : Hp α} {o : Option Nat} {stk : List (Frame α)} (hr : Resume steps rp h o .done stk) :
    stk = [] := by
  cases hr; rfl

/-- what lies below the top frame parked on cell `m` (record `tm`) -/
inductive Below (h : Hp α) (m : Nat) (tm : TM α) : List (Frame α) → Prop where
  | root : tm.realParent = none → rp = some m → Below h m tm []
  | inner (q : Nat) (tq : TM α) (stk : List (Frame α)) :
      tm.realParent = some q → q < m → rp ≠ some m → h[q]? = some tq → (∀ x, tq.ocm = some x → x ≤ q) →
      Resume steps rp h tq.ocm tq.oca stk → Below h m tm stk

theorem Below.congr {h h' : Hp α} {m : Nat} {tm : TM α} {stk : List (Frame α)}
    (hb : ∀ i, i < m → h'[i]? = h[i]?) (hbl : Below steps rp h m tm stk) : Below steps rp h' m tm stk := by
  cases hbl with
  | root h7 h8 => exact .root h7 h8
  | inner q tq stk h7 hq hne htq hbd hres =>
    exact .inner q tq stk h7 hq hne (by rw [hb q hq]; exact htq) hbd
      (Resume.congr steps rp q (fun i hi => hb i (Nat.lt_of_le_of_lt hi hq)) hres hbd)

theorem Below.record {h : Hp α} {m : Nat} {tm tm' : TM α} {stk : List (Frame α)}
    (hr : tm'.realParent = tm.realParent) (hbl : Below steps rp h m tm stk) : Below steps rp h m tm' stk := by
  cases hbl with
  | root h7 h8 => exact .root (hr.trans h7) h8
  | inner q tq stk h7 hq hne htq hbd hres => exact .inner q tq stk (hr.trans h7) hq hne htq hbd hres

/-- cell `m` (record `tm`) is parked on the frame `fr`, above `stk` -/
structure Parked (h : Hp α) (m : Nat) (tm : TM α) (fr : Frame α) (stk : List (Frame α)) : Prop where
  cell : h[m]? = some tm
  items : tm.catchState = some fr.items
  ocm : tm.ocm = some m
  oca : tm.oca = .match_
  node : tm.node = fr.owner
  vidx : tm.vidx = fr.vidx
  iter : ∃ s, steps[tm.vidx]? = some s ∧ s.iterates = true
  below : Below steps rp h m tm stk

variable {steps rp}

theorem Parked.bound {h : Hp α} {m : Nat} {tm : TM α} {fr : Frame α} {stk : List (Frame α)}
    (hpk : Parked steps rp h m tm fr stk) : ∀ x, tm.ocm = some x → x ≤ m := by
  intro x hx
  rw [hpk.ocm] at hx
  cases hx
  exact Nat.le_refl _

theorem Parked.resume {h : Hp α} {m : Nat} {tm : TM α} {fr : Frame α} {stk : List (Frame α)}
    (hpk : Parked steps rp h m tm fr stk) : Resume steps rp h tm.ocm tm.oca (fr :: stk) := by
  obtain ⟨h1, h2, h3, h4, h5, h6, hs, hbl⟩ := hpk
  rw [h3, h4]
  cases hbl with
  | root h7 h8 => exact .frameRoot h m tm fr h1 h2 h3 h4 h5 h6 hs h7 h8
  | inner q tq stk h7 hq hne htq hbd hres => exact .frameInner h m tm fr q tq stk h1 h2 h3 h4 h5 h6 hs h7 hq hne htq hbd hres

theorem Resume.parked {h : Hp α} {m : Nat} {stk : List (Frame α)} (hr : Resume steps rp h (some m) .match_ stk) :
    ∃ fr stk' tm, stk = fr :: stk' ∧ Parked steps rp h m tm fr stk' := by
  cases hr with
  | frameRoot _ tm fr h1 h2 h3 h4 h5 h6 hs h7 h8 =>
    exact ⟨fr, [], tm, rfl, h1, h2, h3, h4, h5, h6, hs, .root h7 h8⟩
  | frameInner _ tm fr q tq stk' h1 h2 h3 h4 h5 h6 hs h7 h8 h8' h9 h10 h11 =>
    exact ⟨fr, stk', tm, rfl, h1, h2, h3, h4, h5, h6, hs, .inner q tq stk' h7 h8 h8' h9 h10 h11⟩

theorem Parked.setItems {h : Hp α} {m : Nat} {tm : TM α} {fr : Frame α} {stk : List (Frame α)}
    (hpk : Parked steps rp h m tm fr stk) (tl : List (Name × α)) :
    Parked steps rp (h.modify m fun t => { t with catchState := some tl }) m { tm with catchState := some tl }
      { fr with items := tl } stk :=
  ⟨modify_self hpk.cell, rfl, hpk.ocm, hpk.oca, hpk.node, hpk.vidx, hpk.iter,
    (Below.congr steps rp (fun i hi => modify_other (Nat.ne_of_gt hi)) hpk.below).record steps rp (by rfl)⟩

variable (steps rp)

/-- an un-parked focus in cell `c`: it holds the same resume pointer as the match it was
derived from (this is why `restore_on_catch` may copy the parent's *current* pointer).  The root
cell has no match to copy from: un-parked it still holds the `done` it was created with, so
nothing is suspended under it (`Resume.done_nil`) and a miss there ends the traversal. -/
def Unparked (h : Hp α) (c : Nat) (tm : TM α) (stk : List (Frame α)) : Prop :=
  tm.catchState = none ∧ (∀ x, tm.ocm = some x → x ≤ c) ∧ Resume steps rp h tm.ocm tm.oca stk ∧
  match tm.realParent with
  | none => rp = some c ∧ tm.oca = .done
  | some q => q < c ∧ rp ≠ some c ∧ ∃ tq, h[q]? = some tq ∧ tm.ocm = tq.ocm ∧ tm.oca = tq.oca ∧
      (∀ x, tq.ocm = some x → x ≤ q)

theorem Unparked.below {h : Hp α} {c : Nat} {tm : TM α} {stk : List (Frame α)}
    (hu : Unparked steps rp h c tm stk) : Below steps rp h c tm stk := by
  obtain ⟨_, _, hres, hinv⟩ := hu
  cases hrp : tm.realParent with
  | none =>
    simp only [hrp] at hinv
    rw [hinv.2] at hres
    obtain rfl := Resume.done_nil steps rp hres
    exact .root hrp hinv.1
  | some q =>
    simp only [hrp] at hinv
    obtain ⟨hq, hne, tq, htq, ho1, ho2, hbq⟩ := hinv
    rw [ho1, ho2] at hres
    exact .inner q tq stk hrp hq hne htq hbq hres

end

/-- `traverser.root_match` is set and points at an allocated cell -/
def RootOK (st : St α) : Prop := ∃ r, st.rootPtr = some r ∧ r < st.heap.size

section
variable (steps : Array (Step α))

/-- a traverser (`current_match`, `next_action`, the `TraverserMatch` cells) and the stack-machine
state it stands for: the focus is the current cell's node, the stack what its resume pointer
denotes -/
inductive R : St α → AS α → Prop where
  | init (st : St α) : st.act = .init → R st .init
  | done (st : St α) : st.act = .done → R st .done
  | report (st : St α) (c : Nat) (tm : TM α) (stk : List (Frame α)) :
      st.cur = some c → st.heap[c]? = some tm → st.act = .report →
      Unparked steps st.rootPtr st.heap c tm stk → RootOK st →
      R st (.report tm.node tm.vertex tm.vidx stk)
  | attempt (st : St α) (c : Nat) (tm : TM α) (stk : List (Frame α)) :
      st.cur = some c → st.heap[c]? = some tm → st.act = .match_ →
      Unparked steps st.rootPtr st.heap c tm stk → RootOK st →
      R st (.attempt tm.node tm.vidx stk)
  | catch_ (st : St α) (c : Nat) (tm : TM α) (stk : List (Frame α)) :
      st.cur = some c → st.heap[c]? = some tm → st.act = .catch_ →
      Resume steps st.rootPtr st.heap tm.ocm tm.oca stk → RootOK st →
      R st (.catch_ stk)
  | parked (st : St α) (c : Nat) (stk : List (Frame α)) :
      st.cur = some c → st.act = .match_ →
      Resume steps st.rootPtr st.heap (some c) .match_ stk → RootOK st →
      R st (.parked stk)

theorem R_resume {st : St α} {o : Option Nat} {a : Act} {stk : List (Frame α)}
    (hr : Resume steps st.rootPtr st.heap o a stk) (hroot : RootOK st) :
    R steps { st with cur := o, act := a } (resume stk) := by
  have hr' := hr
  cases hr with
  | done => exact .done _ rfl
  | frameRoot | frameInner => exact .parked _ _ _ rfl rfl hr' hroot

theorem RootOK.mono {st st' : St α} (hr : RootOK st) (h1 : st'.rootPtr = st.rootPtr)
    (h2 : st.heap.size ≤ st'.heap.size) : RootOK st' := by
  obtain ⟨r, hr1, hr2⟩ := hr
  exact ⟨r, h1.trans hr1, Nat.lt_of_lt_of_le hr2 h2⟩

theorem rootOK_heap (st : St α) (h' : Hp α) (hsz : st.heap.size ≤ h'.size) (hr : RootOK st) :
    RootOK ({ st with heap := h' } : St α) :=
  hr.mono rfl hsz

theorem RootOK.ne_size {st : St α} (hr : RootOK st) : st.rootPtr ≠ some st.heap.size := by
  obtain ⟨r, h1, h2⟩ := hr
  rw [h1]
  intro h
  cases h
  exact Nat.lt_irrefl _ h2

@[simp] theorem setIts_size (st : St α) (p : Nat) (its : List (Name × α)) : (setIts st p its).heap.size = st.heap.size :=
  Array.size_modify ..

@[simp] theorem remember_size (st : St α) (p : Nat) (its : List (Name × α)) :
    (remember st p its).heap.size = st.heap.size :=
  Array.size_modify ..

/-- `restore_on_catch` on an exhausted parked cell, then the jump of `match_action` -/
theorem restore_R (st : St α) (hroot : RootOK st) (p : Nat) (tmP : TM α) (stk : List (Frame α))
    (hp : st.heap[p]? = some tmP)
    (hbl : Below steps st.rootPtr st.heap p tmP stk) :
    ∃ tm', (restore st p).heap[p]? = some tm' ∧
      R steps { restore st p with cur := tm'.ocm, act := tm'.oca } (resume stk) := by
  cases hbl with
  | root hrp hr =>
    refine ⟨{ tmP with catchState := none, ocm := none, oca := .done }, ?_, .done _ rfl⟩
    simp [restore, hr, modify_self hp]
  | inner q tq stk hrp hq hne htq hbd hres =>
    have hrs : restore st p = { st with heap := st.heap.modify p fun tm => { tm with catchState := none, ocm := tq.ocm, oca := tq.oca } } := by
      unfold restore
      rw [if_neg hne]
      simp only [hp, hrp, Option.bind_some, htq]
    rw [hrs]
    refine ⟨_, modify_self hp, ?_⟩
    refine R_resume steps ?_ (hroot.mono rfl (by rw [Array.size_modify]; exact Nat.le_refl _))
    exact Resume.congr steps _ q (fun i hi => modify_other (Nat.ne_of_gt (Nat.lt_of_le_of_lt hi hq))) hres hbd

/-- `remember_on_catch` on an un-parked focus whose step iterates -/
theorem Unparked.park {h : Hp α} {rp : Option Nat} {c : Nat} {tm : TM α} {stk : List (Frame α)}
    (hu : Unparked steps rp h c tm stk) (hc : h[c]? = some tm) (its : List (Name × α))
    (hs : ∃ s, steps[tm.vidx]? = some s ∧ s.iterates = true) :
    Parked steps rp (h.modify c fun t => { t with catchState := some its, ocm := some c, oca := .match_ }) c
      (parked tm c its) ⟨tm.node, tm.vidx, its⟩ stk := by
  exact ⟨modify_self hc, rfl, rfl, rfl, rfl, rfl, hs,
    (Below.congr steps rp (fun i hi => modify_other (Nat.ne_of_gt hi)) (hu.below steps rp)).record steps rp (by rfl)⟩

/-- what a cell allocated with real parent `p` sees of `p` (record `tmP`, whose resume pointer
denotes `frames`) -/
theorem push_parent (st : St α) (hroot : RootOK st) (p : Nat) (tmP : TM α) (frames : List (Frame α))
    (hp : st.heap[p]? = some tmP) (hbd : ∀ x, tmP.ocm = some x → x ≤ p)
    (hres : Resume steps st.rootPtr st.heap tmP.ocm tmP.oca frames) (x : TM α) :
    p < st.heap.size ∧ st.rootPtr ≠ some st.heap.size ∧ (st.heap.push x)[p]? = some tmP ∧
      Resume steps st.rootPtr (st.heap.push x) tmP.ocm tmP.oca frames :=
  have hlt := lt_size_of_get hp
  ⟨hlt, hroot.ne_size, (push_old _ _ _ hlt).trans hp,
    Resume.congr steps _ p (fun i hi => push_old _ _ _ (Nat.lt_of_le_of_lt hi hlt)) hres hbd⟩

/-- a failed attempt: `match_action` jumps to the resume pointer of the focus -/
theorem fail_tail (st : St α) (hroot : RootOK st) (c : Nat) (tm : TM α) (stk : List (Frame α)) (evs : List (Ev α))
    (hc : st.heap[c]? = some tm) (hu : Unparked steps st.rootPtr st.heap c tm stk) :
    R steps (maTail c tm.node tm.vidx (.ok st none evs)).1 (resume stk) ∧
    (maTail c tm.node tm.vidx (.ok st none evs)).2 = (evs ++ [.attempt tm.node (tm.vidx + 1) none none], .none) := by
  simp only [maTail, hc]
  exact ⟨R_resume steps hu.2.2.1 hroot, trivial⟩

/-- a successful attempt: the new focus is derived from cell `p` (record `tmP`, whose resume
pointer denotes `frames`) and allocated at `q`, the end of the heap -/
theorem hit_tail (st : St α) (hroot : RootOK st) (p : Nat) {tmP : TM α} {frames : List (Frame α)}
    (hp : st.heap[p]? = some tmP) (hbd : ∀ x, tmP.ocm = some x → x ≤ p)
    (hres : Resume steps st.rootPtr st.heap tmP.ocm tmP.oca frames)
    (c : Nat) (n0 : MNode α) (vi0 : Nat) (evs : List (Ev α)) (q : Nat) (hq : q = st.heap.size)
    (node : MNode α) (vertex vidx : Nat) :
    R steps (maTail c n0 vi0 (.ok (push st (derive tmP p node vertex vidx)) (some q) evs)).1
      (.report node vertex vidx frames) ∧
    (maTail c n0 vi0 (.ok (push st (derive tmP p node vertex vidx)) (some q) evs)).2 =
      (evs ++ [.attempt n0 (vi0 + 1) (some node) none], .none) := by
  subst hq
  obtain ⟨hlt, hne, hcell, hres'⟩ := push_parent steps st hroot p tmP frames hp hbd hres (derive tmP p node vertex vidx)
  have hnew : (push st (derive tmP p node vertex vidx)).heap[st.heap.size]? = some (derive tmP p node vertex vidx) :=
    Array.getElem?_push_size
  simp only [maTail, hnew]
  refine ⟨?_, rfl⟩
  exact .report _ st.heap.size (derive tmP p node vertex vidx) frames rfl hnew rfl
    ⟨rfl, fun x hx => Nat.le_trans (hbd x hx) (Nat.le_of_lt hlt), hres', hlt, hne, tmP, hcell, rfl, rfl, hbd⟩
    (hroot.mono rfl (by simp [push]))

/-- the iterator protocol shared by every (non-recursive) multi-valued step -/
theorem iter_tail (st : St α) (hroot : RootOK st) (p : Nat) (tmP : TM α) (fr : Frame α) (stk : List (Frame α))
    (hpk : Parked steps st.rootPtr st.heap p tmP fr stk) :
    R steps (maTail p tmP.node tmP.vidx (iterStep st p tmP (tmP.vidx + 1) fr.items)).1 (aIter fr.owner fr.vidx fr.items stk).1 ∧
    (maTail p tmP.node tmP.vidx (iterStep st p tmP (tmP.vidx + 1) fr.items)).2 = (aIter fr.owner fr.vidx fr.items stk).2 := by
  obtain ⟨owner, vi, its⟩ := fr
  obtain rfl : tmP.node = owner := hpk.node
  obtain rfl : tmP.vidx = vi := hpk.vidx
  cases its with
  | nil =>
    obtain ⟨tm', htm', hr⟩ := restore_R steps st hroot p tmP stk hpk.cell hpk.below
    simp only [iterStep, maTail, htm', aIter]
    exact ⟨hr, by simp⟩
  | cons it tl =>
    obtain ⟨nm, x⟩ := it
    have hpk' := hpk.setItems tl
    exact hit_tail steps (setIts st p tl) (hroot.mono rfl (by simp)) p hpk'.cell hpk'.bound hpk'.resume
      p tmP.node tmP.vidx [] st.heap.size (by simp) (.child tmP.node nm x) (tmP.vidx + 1) (tmP.vidx + 1)

/-- a child cell allocated at `q` and parked at once (the recursive step on a container child) -/
theorem push_child (st : St α) (hroot : RootOK st) (p : Nat) {tmP : TM α} {frames : List (Frame α)}
    (hp : st.heap[p]? = some tmP) (hbd : ∀ x, tmP.ocm = some x → x ≤ p)
    (hres : Resume steps st.rootPtr st.heap tmP.ocm tmP.oca frames) (q : Nat) (hq : q = st.heap.size)
    (node : MNode α) (vertex vidx : Nat) (its : List (Name × α))
    (hs : ∃ s, steps[vidx]? = some s ∧ s.iterates = true) :
    Parked steps st.rootPtr (push st (parked (derive tmP p node vertex vidx) q its)).heap q
      (parked (derive tmP p node vertex vidx) q its) ⟨node, vidx, its⟩ frames := by
  subst hq
  obtain ⟨hlt, hne, hcell, hres'⟩ := push_parent steps st hroot p tmP frames hp hbd hres
    (parked (derive tmP p node vertex vidx) st.heap.size its)
  exact ⟨Array.getElem?_push_size, rfl, rfl, rfl, rfl, rfl, hs, .inner p tmP frames rfl hlt hne hcell hbd hres'⟩

/-- the recursive step resumed on its parked cell: exhaustion, a scalar child (returned
itself, with `vertex_index - 1`), or a container child (parked at once, its imaginary match
returned) -/
theorem rec_iter_tail (view : α → View α) (st : St α) (hroot : RootOK st) (p : Nat) (tmP : TM α)
    (fr : Frame α) (stk : List (Frame α)) (hpk : Parked steps st.rootPtr st.heap p tmP fr stk)
    (hs : steps[tmP.vidx]? = some .recur) :
    R steps (maTail p tmP.node tmP.vidx (vmatchRecur view st p tmP (tmP.vidx + 1))).1 (aRecIter view fr.owner fr.vidx fr.items stk).1 ∧
    (maTail p tmP.node tmP.vidx (vmatchRecur view st p tmP (tmP.vidx + 1))).2 = (aRecIter view fr.owner fr.vidx fr.items stk).2 := by
  obtain ⟨owner, vi, its⟩ := fr
  obtain rfl : tmP.node = owner := hpk.node
  obtain rfl : tmP.vidx = vi := hpk.vidx
  have hcs : tmP.catchState = some its := hpk.items
  cases its with
  | nil =>
    obtain ⟨tm', htm', hr⟩ := restore_R steps st hroot p tmP stk hpk.cell hpk.below
    simp only [vmatchRecur, hcs, maTail, htm', aRecIter]
    exact ⟨hr, by simp⟩
  | cons it tl =>
    obtain ⟨nm, x⟩ := it
    have hpk' := hpk.setItems tl
    have hroot' : RootOK (setIts st p tl) := hroot.mono rfl (by simp)
    cases hc : allItems (view x) with
    | none =>
      simp only [vmatchRecur, hcs, hc, aRecIter, Nat.add_sub_cancel]
      exact hit_tail steps (setIts st p tl) hroot' p hpk'.cell hpk'.bound hpk'.resume
        p tmP.node tmP.vidx [] st.heap.size (by simp) (.child tmP.node nm x) (tmP.vidx + 1) tmP.vidx
    | some cits =>
      simp only [vmatchRecur, hcs, hc, aRecIter, Nat.add_sub_cancel]
      have hchild := push_child steps (setIts st p tl) hroot' p hpk'.cell hpk'.bound hpk'.resume
        st.heap.size (by simp) (.child tmP.node nm x) (tmP.vidx + 1) tmP.vidx cits ⟨.recur, hs, rfl⟩
      exact hit_tail steps (push (setIts st p tl) _) (hroot'.mono rfl (by simp [push])) st.heap.size
        hchild.cell hchild.bound hchild.resume
        p tmP.node tmP.vidx [] (st.heap.size + 1) (by simp [push]) (.imag (.child tmP.node nm x))
        (tmP.vidx + 1) (tmP.vidx + 1)

theorem Step.iterates_iff {s : Step α} : s.iterates = true ↔ s.cls = .multi ∨ s = .recur := by
  cases s with
  | key _ | idx _ | parent | filter _ => exact ⟨fun h => (by cases h), fun h => by rcases h with h | h <;> cases h⟩
  | recur => exact ⟨fun _ => .inr rfl, fun _ => rfl⟩
  | _ => exact ⟨fun _ => .inl rfl, fun _ => rfl⟩

theorem attempt_bisim (view : α → View α) (st : St α) (hroot : RootOK st) (c : Nat) (tm : TM α) (stk : List (Frame α))
    (hcur : st.cur = some c) (hact : st.act = .match_)
    (hc : st.heap[c]? = some tm) (hu : Unparked steps st.rootPtr st.heap c tm stk) :
    R steps (matchAction view steps st c tm).1 (aAttempt view steps tm.node tm.vidx stk).1 ∧
    (matchAction view steps st c tm).2 = (aAttempt view steps tm.node tm.vidx stk).2 := by
  have hsame : R steps st (.attempt tm.node tm.vidx stk) := .attempt st c tm stk hcur hc hact hu hroot
  have hfail := fun evs => fail_tail steps st hroot c tm stk evs hc hu
  have hhit := fun evs node => hit_tail steps st hroot c hc hu.2.1 hu.2.2.1 c tm.node tm.vidx evs
    st.heap.size rfl node (tm.vidx + 1) (tm.vidx + 1)
  rw [matchAction_eq]
  cases hs : steps[tm.vidx]? with
  | none => simp only [aAttempt, hs]; exact ⟨hsame, trivial⟩
  | some s =>
    simp only []
    cases hcl : s.cls with
    | multi =>
      rw [vmatch_multi view s hcl, aAttempt_multi view steps s hcl _ _ _ hs]
      simp only [vmatchMulti, hu.1]
      cases hio : itemsOf s (view tm.node.data) with
      | wrongKind => exact hfail []
      | valueError => exact ⟨hsame, rfl⟩
      | ok its =>
        have hpk := hu.park steps hc its ⟨s, hs, Step.iterates_iff.mpr (.inl hcl)⟩
        exact iter_tail steps (remember st c its) (hroot.mono rfl (by simp)) c (parked tm c its)
          ⟨tm.node, tm.vidx, its⟩ stk hpk
    | single =>
      rw [vmatch_single view s hcl, aAttempt_single view steps s hcl _ _ _ hs]
      simp only [vmatchSingle]
      cases singleOf view s tm.node with
      | none => exact hfail []
      | some n' => exact hhit [] n'
    | filter =>
      obtain ⟨f, rfl⟩ := Step.eq_filter_of_cls hcl
      simp only [vmatch, vmatchFilter, aAttempt, hs]
      cases (f tm.node).res with
      | val j =>
        simp only []
        split
        · exact hhit _ (.imag tm.node)
        · exact hfail _
      | raise e => exact ⟨hsame, rfl⟩
    | recur =>
      obtain rfl := Step.eq_recur_of_cls hcl
      simp only [vmatch, vmatchRecur, hu.1, aAttempt, hs]
      cases allItems (view tm.node.data) with
      | none => exact hfail []
      | some its =>
        have hpk := hu.park steps hc its ⟨.recur, hs, rfl⟩
        exact hit_tail steps (remember st c its) (hroot.mono rfl (by simp)) c hpk.cell hpk.bound hpk.resume
          c tm.node tm.vidx [] st.heap.size (by simp) (.imag tm.node) (tm.vidx + 1) (tm.vidx + 1)

theorem curTM_eq (st : St α) (c : Nat) (tm : TM α) (hcur : st.cur = some c) (hc : st.heap[c]? = some tm) :
    curTM st = some (c, tm) := by
  simp [curTM, hcur, hc]

/-- **Lock-step bisimulation**: related states take related steps, emitting the same events
and the same signal. -/
theorem bisim (view : α → View α) (src : Src α) (st : St α) (as : AS α) (hR : R steps st as) :
    R steps (action view steps src st).1 (astep view steps src as).1 ∧
    (action view steps src st).2 = (astep view steps src as).2 := by
  cases hR with
  | init hact =>
    simp only [action, hact, initAction, astep]
    refine ⟨?_, trivial⟩
    exact .report _ st.heap.size ⟨src.rootNode, none, 0, 0, none, some st.heap.size, .done⟩ [] rfl (Array.getElem?_push_size) rfl
      ⟨rfl, fun x hx => Nat.le_of_eq (Option.some.inj hx).symm, .done _ _, rfl, rfl⟩ ⟨st.heap.size, rfl, by simp⟩
  | done hact =>
    simp only [action, hact, astep]
    exact ⟨.done _ hact, trivial⟩
  | report c tm stk hcur hc hact hu hroot =>
    simp only [action, hact, curTM_eq st c tm hcur hc, reportAction, astep]
    by_cases hv : tm.vertex = steps.size
    · simp only [hv, if_true]
      exact ⟨.catch_ _ c tm stk hcur hc rfl hu.2.2.1 hroot, trivial⟩
    · simp only [hv, if_false]
      exact ⟨.attempt _ c tm stk hcur hc rfl hu hroot, trivial⟩
  | catch_ c tm stk hcur hc hact hres hroot =>
    simp only [action, hact, curTM_eq st c tm hcur hc, catchAction, astep]
    exact ⟨R_resume steps hres hroot, trivial⟩
  | attempt c tm stk hcur hc hact hu hroot =>
    simp only [action, hact, curTM_eq st c tm hcur hc, astep]
    exact attempt_bisim steps view st hroot c tm stk hcur hact hc hu
  | parked c stk hcur hact hres hroot =>
    obtain ⟨fr, stk', tm, rfl, hpk⟩ := hres.parked
    obtain ⟨s, hs, hit⟩ := hpk.iter
    have hsf : steps[fr.vidx]? = some s := hpk.vidx ▸ hs
    simp only [action, hact, curTM_eq st c tm hcur hpk.cell]
    rw [matchAction_eq, hs]
    simp only []
    rcases Step.iterates_iff.mp hit with hm | rfl
    · rw [astep_parked_multi view steps src s hm fr stk' hsf, vmatch_multi view s hm]
      simp only [vmatchMulti, hpk.items]
      exact iter_tail steps st hroot c tm fr stk' hpk
    · rw [astep_parked_recur view steps src fr stk' hsf]
      exact rec_iter_tail steps view st hroot c tm fr stk' hpk hs

end

section
variable (view : α → View α) (steps : Array (Step α)) (src : Src α)

/-- the heap machine's `next()` is the stack machine's, through the bisimulation -/
theorem next_anext (limit : Nat) (st : St α) (as : AS α) (hR : R steps st as) :
    (next view steps src limit st).2 = (anext view steps src limit as).2 ∧
    R steps (next view steps src limit st).1 (anext view steps src limit as).1 := by
  induction limit generalizing st as with
  | zero => exact ⟨rfl, hR⟩
  | succ limit ih =>
    obtain ⟨r1, e1⟩ := bisim steps view src st as hR
    rcases ha : action view steps src st with ⟨t, ev, sg⟩
    rcases hb : astep view steps src as with ⟨t', ev', sg'⟩
    rw [ha, hb] at e1 r1
    simp only [Prod.mk.injEq] at e1
    obtain ⟨rfl, rfl⟩ := e1
    unfold next anext
    rw [ha, hb]
    cases sg with
    | none =>
      simp only
      split
      · exact ⟨rfl, r1⟩
      · obtain ⟨hq, hr⟩ := ih t t' r1
        exact ⟨congrArg (fun x : List (Ev α) × Sig α => (ev ++ x.1, x.2)) hq, hr⟩
    | result n => simp only; split <;> exact ⟨rfl, r1⟩
    | raised e => exact ⟨rfl, r1⟩
    | bug m => exact ⟨rfl, r1⟩
    | stop => exact ⟨rfl, r1⟩

end
end Treepath
