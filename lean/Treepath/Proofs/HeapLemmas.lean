import Treepath.Model.Mutate
import Treepath.Proofs.ArrayLemmas
import Treepath.Proofs.StepLemmas
/- container primitives and frame lemmas of the object store -/
namespace Treepath

theorem hput_other {h : Heap} {id j : Nat} {o : Obj} (hj : j ≠ id) : (hput h id o)[j]? = h[j]? := by
  simp [hput, Ne.symm hj]

theorem hput_size (h : Heap) (id : Nat) (o : Obj) : (hput h id o).size = h.size := by
  simp [hput]

theorem hput_self {h : Heap} {id : Nat} {o : Obj} (hlt : id < h.size) : (hput h id o)[id]? = some o := by
  simp [hput, hlt]

theorem dictSet_lookup_self (es : List (String × Val)) (k : String) (v : Val) :
    (dictSet es k v).lookup k = some v := by
  fun_induction dictSet es k v with
  | case1 => exact List.lookup_cons_self
  | case2 => exact List.lookup_cons_self
  | case3 k' v' es k v h ih => rw [lookup_cons_ne (Ne.symm h)]; exact ih

theorem dictSet_lookup_other {es : List (String × Val)} {k k' : String} {v : Val} (hk : k' ≠ k) :
    (dictSet es k v).lookup k' = es.lookup k' := by
  fun_induction dictSet es k v with
  | case1 => exact lookup_cons_ne hk
  | case2 => rw [lookup_cons_ne hk, lookup_cons_ne hk]
  | case3 k0 v0 es k v h ih =>
    by_cases h1 : k' = k0
    · subst h1; rw [List.lookup_cons_self, List.lookup_cons_self]
    · rw [lookup_cons_ne h1, lookup_cons_ne h1]; exact ih hk

theorem dictSet_keys (es : List (String × Val)) (k : String) (v : Val) :
    (dictSet es k v).map Prod.fst =
      if k ∈ es.map Prod.fst then es.map Prod.fst else es.map Prod.fst ++ [k] := by
  fun_induction dictSet es k v with
  | case1 => rfl
  | case2 => simp
  | case3 k0 v0 es k v h ih =>
    have : ¬ k = k0 := fun e => h e.symm
    simp only [List.map_cons, ih, List.mem_cons, this, false_or]
    split <;> rfl

theorem dictSet_nodup {es : List (String × Val)} {k : String} {v : Val} (hn : (es.map Prod.fst).Nodup) :
    ((dictSet es k v).map Prod.fst).Nodup := by
  rw [dictSet_keys]
  split
  · exact hn
  · rename_i hk
    exact List.nodup_append.mpr ⟨hn, by simp, fun a ha b hb e => hk (by simp at hb; subst hb; exact e ▸ ha)⟩

theorem dictErase_keys_sublist (es : List (String × Val)) (k : String) :
    ((dictErase es k).map Prod.fst).Sublist (es.map Prod.fst) := by
  induction es with
  | nil => simp [dictErase]
  | cons e es ih =>
    obtain ⟨k', v'⟩ := e
    simp only [dictErase]
    split
    · simp
    · simpa using ih

/-- every other entry keeps its value and position: erasing `k` from both sides gives the
same list -/
theorem dictSet_erase (es : List (String × Val)) (k : String) (v : Val) :
    dictErase (dictSet es k v) k = dictErase es k := by
  fun_induction dictSet es k v with
  | case1 => simp [dictErase]
  | case2 => simp [dictErase]
  | case3 k0 v0 es k v h ih => simp [dictErase, h, ih]

theorem dictErase_lookup_other {es : List (String × Val)} {k k' : String} (hk : k' ≠ k) :
    (dictErase es k).lookup k' = es.lookup k' := by
  fun_induction dictErase es k with
  | case1 => rfl
  | case2 => rw [lookup_cons_ne hk]
  | case3 k0 v0 es k h ih =>
    by_cases h1 : k' = k0
    · subst h1; rw [List.lookup_cons_self, List.lookup_cons_self]
    · rw [lookup_cons_ne h1, lookup_cons_ne h1]; exact ih hk

theorem normIndex_lt {len : Nat} {i : Int} {k : Nat} (h : normIndex len i = some k) : k < len := by
  unfold normIndex at h
  split at h
  · split at h
    · cases h; assumption
    · cases h
  · split at h
    · cases h; omega
    · cases h

theorem normIndex_self_len (n : Nat) : normIndex (n+1) (n : Int) = some n := by
  simp [normIndex]

theorem getPy?_eq_norm {β} (xs : List β) (i : Int) : getPy? xs i = (normIndex xs.length i).bind (xs[·]?) := by
  unfold getPy? normIndex
  by_cases h0 : 0 ≤ i
  · simp only [h0, if_true]
    by_cases hl : i.toNat < xs.length
    · simp [hl]
    · simp only [hl, if_false, Option.bind_none]
      exact List.getElem?_eq_none (by omega)
  · simp only [h0, if_false]
    by_cases hl : (-i).toNat ≤ xs.length
    · simp [hl]
    · simp [hl]

theorem listSet_spec {xs xs' : List Val} {i : Int} {v : Val} (h : listSet xs i v = some xs') :
    ∃ p, normIndex xs.length i = some p ∧ xs' = xs.set p v := by
  obtain ⟨p, hp, rfl⟩ := Option.map_eq_some_iff.mp h
  exact ⟨p, hp, rfl⟩

theorem listDel_spec {xs xs' : List Val} {i : Int} {v : Val} (h : listDel xs i = some (v, xs')) :
    ∃ k, normIndex xs.length i = some k ∧ xs[k]? = some v ∧ xs' = xs.eraseIdx k := by
  unfold listDel at h
  cases hn : normIndex xs.length i with
  | none => simp [hn] at h
  | some k =>
    simp [hn] at h
    obtain ⟨a, ha, hv, hx⟩ := h
    exact ⟨k, rfl, by rw [ha, hv], hx.symm⟩

theorem dictDel_spec {es es' : List (String × Val)} {k : String} {v : Val} (h : dictDel es k = some (v, es')) :
    es.lookup k = some v ∧ es' = dictErase es k := by
  unfold dictDel at h
  cases hl : es.lookup k with
  | none => simp [hl] at h
  | some w => simp [hl] at h; exact ⟨by rw [h.1], h.2.symm⟩

theorem dictDel_eq_none {es : List (String × Val)} {k : String} : dictDel es k = none ↔ es.lookup k = none := by
  unfold dictDel
  cases es.lookup k <;> simp

theorem listDel_eq_none {xs : List Val} {i : Int} :
    listDel xs i = none ↔ (normIndex xs.length i).bind (xs[·]?) = none := by
  unfold listDel
  cases normIndex xs.length i <;> simp

/-- what the traverser, `Handle.slot` and the writers all read: the entry of an object under a
name, Python indices normalised -/
def Obj.get? : Obj → Name → Option Val
  | .dict es, .key k => es.lookup k
  | .list xs, .idx i => (normIndex xs.length i).bind (xs[·]?)
  | _, _ => none

theorem childAt_hview {h : Heap} {id : Nat} {o : Obj} (ho : h[id]? = some o) (nm : Name) :
    childAt (hview h (.ref id)) nm = o.get? nm := by
  cases o <;> cases nm <;> simp [childAt, hview, ho, Obj.get?, getPy?_eq_norm]

end Treepath
