import Treepath.Proofs.StreamEval
/-
The specification stream and the step-by-step definition agree *including exceptions*: the
results before the stream's first `raised` event are `(evalE p n).1`, and that first raise is
`(evalE p n).2` — for every path, with predicates that may raise: `cut` is one of the readings
of `stream_hom`.
-/
namespace Treepath

/-- what a consumer sees of a stream: the results before the first exception, and that exception -/
def cut (evs : List (Ev J)) : Res := (resultsOf (takeThroughRaise evs), firstRaise evs)

@[simp] theorem cut_nil : cut [] = ([], none) := rfl

theorem cut_raised (e : Exc) (t : List (Ev J)) : cut (.raised e :: t) = ([], some e) := rfl

theorem cut_result (n : MNode J) (t : List (Ev J)) : cut (.result n :: t) = Res.append ([n], none) (cut t) := rfl

theorem cut_attempt (l : MNode J) (vi : Nat) (nx st : Option (MNode J)) (t : List (Ev J)) :
    cut (.attempt l vi nx st :: t) = cut t := rfl

theorem cut_predCall (c : MNode J) (t : List (Ev J)) : cut (.predCall c :: t) = cut t := rfl

theorem cut_append (a b : List (Ev J)) : cut (a ++ b) = (cut a).append (cut b) := by
  simp only [cut, firstRaise_append]
  cases h : firstRaise a with
  | none => simp [ttr_append_none _ h, ttr_noraise _ h, Res.append]
  | some e => simp [ttr_append_some _ h, Res.append]

theorem cut_clean (l : List (Ev J)) (h : ∀ e ∈ l, e.isClean = true) : cut l = ([], none) := by
  rw [cut, firstRaise_clean l h, ttr_noraise l (firstRaise_clean l h), resultsOf_clean l h]

/-- **the stream and the definition agree, exceptions included** -/
theorem cut_stream (p : List (Step J)) (hp : PredsClean p.toArray) :
    ∀ (vi : Nat) (n : MNode J), cut (stream p vi n) = evalE p n :=
  stream_hom cut cut_nil cut_append (fun _ _ _ _ => rfl) (fun _ => rfl) (fun _ => rfl) p
    fun s hs => ⟨fun f hf n => cut_clean _ (hp s (by simpa using hs) f hf n), fun _ e _ => cut_raised e []⟩

end Treepath
