import Treepath.Model.Machine
import Treepath.Proofs.ArrayLemmas
import Treepath.Proofs.StepLemmas
/-
One action of the traverser and one `next()`, each taken apart once: `vmatch_cases` (what
`vertex.match` can come to), `action_cases` (the six kinds of action, with their events and
signal) and `next_cases` (`next()` = actions without a signal, then one that signals).  The
statements about signals, events and exceptions further on are read off these.
-/
namespace Treepath
variable {α : Type}

def VmOut (view : α → View α) (st : St α) (tm : TM α) (s : Step α) (r : MR α) : Prop :=
  (∃ st' q evs, r = .ok st' q evs ∧ PredEvs s tm.node evs) ∨
  (∃ e evs, r = .abort st (.raised e) evs ∧ StepRaises view s tm.node e evs)

theorem vmatch_cases (view : α → View α) (st : St α) (p : Nat) (tm : TM α) (vi : Nat) (s : Step α) :
    VmOut view st tm s (vmatch view st p tm vi s) := by
  have ok : ∀ st' q, VmOut view st tm s (.ok st' q []) := fun _ _ => .inl ⟨_, _, _, rfl, .inl rfl⟩
  have hit : ∀ (st1 : St α) (tm1 : TM α) (its : List (Name × α)), VmOut view st tm s (iterStep st1 p tm1 vi its) := by
    intro st1 tm1 its
    cases its <;> exact ok _ _
  have hm : VmOut view st tm s (vmatchMulti view st p tm vi s) := by
    unfold vmatchMulti
    split
    · exact hit ..
    · split
      · exact ok _ _
      · exact .inr ⟨_, _, rfl, .zeroStep ‹_›⟩
      · exact hit ..
  have hs : VmOut view st tm s (vmatchSingle view st p tm vi s) := by
    unfold vmatchSingle
    split <;> exact ok _ _
  cases s with
  | filter f =>
    simp only [vmatch, vmatchFilter]
    split
    · split <;> exact .inl ⟨_, _, _, rfl, .inr ⟨f, rfl, rfl⟩⟩
    · exact .inr ⟨_, _, rfl, .pred f _ rfl ‹_›⟩
  | recur =>
    simp only [vmatch, vmatchRecur]
    split
    · split <;> exact ok _ _
    · exact ok _ _
    · split <;> exact ok _ _
  | key | idx | parent => exact hs
  | _ => exact hm

theorem vmatch_multi (view : α → View α) (s : Step α) (hm : s.cls = .multi) (st : St α) (p : Nat) (tm : TM α)
    (vi : Nat) : vmatch view st p tm vi s = vmatchMulti view st p tm vi s := by
  cases s with
  | slice | tuple | keyWc | idxWc | gwc => rfl
  | _ => cases hm

theorem vmatch_single (view : α → View α) (s : Step α) (hc : s.cls = .single) (st : St α) (p : Nat) (tm : TM α)
    (vi : Nat) : vmatch view st p tm vi s = vmatchSingle view st p tm vi s := by
  cases s with
  | key | idx | parent => rfl
  | _ => cases hc

/-- what `match_action` does with the outcome of `vertex.match` -/
def maTail (c : Nat) (node : MNode α) (vidx : Nat) : MR α → St α × List (Ev α) × Sig α
  | .abort st' sig evs => (st', evs, sig)
  | .ok st' (some q) evs =>
    ({ st' with cur := some q, act := .report },
     evs ++ [.attempt node (vidx + 1) ((st'.heap[q]?).map (·.node)) none], .none)
  | .ok st' none evs =>
    match st'.heap[c]? with
    | some tm' => ({ st' with cur := tm'.ocm, act := tm'.oca }, evs ++ [.attempt node (vidx + 1) none none], .none)
    | none => (st', [], .bug "dangling")

theorem matchAction_eq (steps : Array (Step α)) (view : α → View α) (st : St α) (c : Nat) (tm : TM α) :
    matchAction view steps st c tm =
      match steps[tm.vidx]? with
      | none => (st, [], .bug "vertex index out of range")
      | some s => maTail c tm.node tm.vidx (vmatch view st c tm (tm.vidx + 1) s) := by
  unfold matchAction
  cases hs : steps[tm.vidx]? with
  | none => rfl
  | some s =>
    simp only []
    cases hv : vmatch view st c tm (tm.vidx + 1) s with
    | abort st' sig evs => rfl
    | ok st' nm evs => cases nm <;> rfl

section
variable (view : α → View α) (steps : Array (Step α)) (src : Src α)

/-- the kinds of action, by the shape of events and signal; the new state is said only where it
is the old one (a raise, `done`) -/
inductive Acted (st : St α) : St α × List (Ev α) × Sig α → Prop
  | raises (s : Step α) (n : MNode α) (e : Exc) (evs : List (Ev α)) :
      s ∈ steps.toList → StepRaises view s n e evs → Acted st (st, evs, .raised e)
  | attempt (s : Step α) (n : MNode α) (vi : Nat) (s1 : St α) (pre : List (Ev α)) (nx : Option (MNode α)) :
      s ∈ steps.toList → PredEvs s n pre → Acted st (s1, pre ++ [.attempt n vi nx none], .none)
  | done : st.act = .done → Acted st (st, [.stop], .stop)
  | result (s1 : St α) (n : MNode α) : Acted st (s1, [.result n], .result n)
  | silent (s1 : St α) : Acted st (s1, [], .none)
  | bug (s1 : St α) (m : String) : Acted st (s1, [], .bug m)

theorem action_cases {view : α → View α} {steps : Array (Step α)} {src : Src α} {st : St α}
    {r : St α × List (Ev α) × Sig α} (h : action view steps src st = r) :
    Acted view steps st r := by
  subst h
  -- 1 `init`; 2 `done`; then with / without a current match: 3 / 4 `report`, 5 / 6 `catch_`, 7 / 8 `match_`
  fun_cases action view steps src st with
  | case1 => exact .silent _
  | case2 hd => exact .done hd
  | case3 _ _ tm _ =>
    simp only [reportAction]
    split
    · exact .result _ _
    · exact .silent _
  | case5 => exact .silent _
  | case4 | case6 | case8 => exact .bug _ _
  | case7 _ c tm _ =>
    rw [matchAction_eq]
    cases hs : steps[tm.vidx]? with
    | none => exact .bug _ _
    | some s =>
      have hmem := mem_toList_of_getElem? hs
      rcases vmatch_cases view st c tm (tm.vidx + 1) s with ⟨st', q, evs, hv, hev⟩ | ⟨e, evs, hv, hsh⟩
      · simp only [hv]
        cases q with
        | some q => exact .attempt s _ _ _ evs _ hmem hev
        | none =>
          simp only [maTail]
          split
          · exact .attempt s _ _ _ evs _ hmem hev
          · exact .bug _ _
      · simp only [hv]
        exact .raises s _ e evs hmem hsh
theorem action_done {st : St α} (h : st.act = .done) : action view steps src st = (st, [.stop], .stop) := by
  simp [action, h]

theorem action_stop {view : α → View α} {steps : Array (Step α)} {src : Src α} {st s1 : St α} {e1 : List (Ev α)}
    (h : action view steps src st = (s1, e1, .stop)) :
    st.act = .done ∧ s1 = st := by
  cases action_cases h with
  | done hd => exact ⟨hd, rfl⟩

inductive Silent : St α → List (Ev α) → St α → Prop
  | nil (st : St α) : Silent st [] st
  | cons {st s1 s2 : St α} {e1 e2 : List (Ev α)} :
      action view steps src st = (s1, e1, .none) → Silent s1 e2 s2 → Silent st (e1 ++ e2) s2

/-- **`next()`, taken apart**: unless the loop budget runs out, it is a silent run followed by
one action that signals; state and signal are that action's, the events those of both -/
theorem next_cases {view : α → View α} {steps : Array (Step α)} {src : Src α} {limit : Nat} {st st' : St α}
    {evs : List (Ev α)} {sig : Sig α}
    (h : next view steps src limit st = (st', evs, sig)) :
    sig = .raised .loopDetected ∨
    ∃ s1 pre aevs, Silent view steps src st pre s1 ∧ action view steps src s1 = (st', aevs, sig) ∧
      evs = pre ++ aevs ∧ sig ≠ .none := by
  -- 1 no budget; the action gives no signal: 2 on the last unit, 3 with more left; it gives a result:
  -- 4 on the last unit, 5 with more left; 6 it gives any other signal
  fun_induction next view steps src limit st generalizing st' evs sig with
  | case1 | case2 | case4 => cases h; exact .inl rfl
  | case3 limit st s1 e1 ha _ s2 e2 sig2 hn ih =>
    cases h
    rcases ih hn with hl | ⟨s1', pre, aevs, hsil, hact, rfl, hne⟩
    · exact .inl hl
    · exact .inr ⟨s1', e1 ++ pre, aevs, .cons ha hsil, hact, by rw [List.append_assoc], hne⟩
  | case5 limit st s1 e1 n ha _ => cases h; exact .inr ⟨st, [], e1, .nil st, ha, rfl, nofun⟩
  | case6 limit st h1 _ => exact .inr ⟨st, [], evs, .nil st, h, rfl, fun hs => h1 _ _ (hs ▸ h)⟩

theorem next_result_last {view : α → View α} {steps : Array (Step α)} {src : Src α} {limit : Nat} {st st' : St α}
    {evs : List (Ev α)} {n : MNode α} (h : next view steps src limit st = (st', evs, .result n)) :
    ∃ pre, evs = pre ++ [.result n] := by
  rcases next_cases h with hl | ⟨s1, pre, aevs, _, ha, rfl, _⟩
  · cases hl
  cases action_cases ha with
  | result => exact ⟨pre, rfl⟩

theorem next_not_none (limit : Nat) (st st' : St α) (evs : List (Ev α)) :
    next view steps src limit st ≠ (st', evs, .none) := by
  intro h
  rcases next_cases h with hl | ⟨_, _, _, _, _, _, hne⟩
  · cases hl
  · exact hne rfl

end

/-- an exception leaves the traverser exactly as it was before the action -/
theorem action_raised_state (view : α → View α) (steps : Array (Step α)) (src : Src α) (st s1 : St α)
    (e1 : List (Ev α)) (e : Exc) (h : action view steps src st = (s1, e1, .raised e)) : s1 = st := by
  cases action_cases h with
  | raises => rfl

/-- `StopIteration` is only ever produced by the `done` action, which leaves the state as it is -/
theorem next_stop_done (view : α → View α) (steps : Array (Step α)) (src : Src α) (limit : Nat)
    (st st' : St α) (evs : List (Ev α)) (h : next view steps src limit st = (st', evs, .stop)) :
    st'.act = .done := by
  rcases next_cases h with hl | ⟨s1, _, _, _, ha, _, _⟩
  · cases hl
  · obtain ⟨hd, hs⟩ := action_stop ha
    rw [hs]; exact hd

end Treepath
