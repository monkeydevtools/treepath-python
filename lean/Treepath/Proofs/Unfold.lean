import Treepath.Proofs.HeapLemmas
import Treepath.Spec.TreeWrite
/-
The object store and the JSON tree it unfolds to: the relation `UnfJ` between a stored value
and a tree, and the fact everything about frames rests on — a value is unfolded through the
objects of its footprint only.  Nothing here needs the traverser.
-/
namespace Treepath

mutual
/-- heap value `v` unfolds to the JSON tree `j` (first argument) -/
def UnfJ (h : Heap) : J → Val → Prop
  | .obj kvs, .ref id => ∃ es, h[id]? = some (.dict es) ∧ UnfKvsJ h kvs es
  | .arr ys, .ref id => ∃ xs, h[id]? = some (.list xs) ∧ UnfListJ h ys xs
  | .obj _, .atom _ => False
  | .arr _, .atom _ => False
  | .null, v => v = .atom .null
  | .bool b, v => v = .atom (.bool b)
  | .int i, v => v = .atom (.int i)
  | .half i, v => v = .atom (.half i)
  | .str s, v => v = .atom (.str s)
def UnfKvsJ (h : Heap) : List (String × J) → List (String × Val) → Prop
  | [], [] => True
  | (k, j) :: kvs, (k', v) :: es => k' = k ∧ UnfJ h j v ∧ UnfKvsJ h kvs es
  | [], _ :: _ => False
  | _ :: _, [] => False
def UnfListJ (h : Heap) : List J → List Val → Prop
  | [], [] => True
  | j :: ys, v :: xs => UnfJ h j v ∧ UnfListJ h ys xs
  | [], _ :: _ => False
  | _ :: _, [] => False
end

theorem unf_ref_cases {h : Heap} {j : J} {id : Nat} (hu : UnfJ h j (.ref id)) :
    (∃ kvs es, j = .obj kvs ∧ h[id]? = some (.dict es) ∧ UnfKvsJ h kvs es) ∨
    (∃ ys xs, j = .arr ys ∧ h[id]? = some (.list xs) ∧ UnfListJ h ys xs) := by
  cases j with
  | obj kvs =>
    obtain ⟨es, ho, hk⟩ := hu
    exact .inl ⟨kvs, es, rfl, ho, hk⟩
  | arr ys =>
    obtain ⟨xs, ho, hl⟩ := hu
    exact .inr ⟨ys, xs, rfl, ho, hl⟩
  | _ => exact Val.noConfusion hu

/-- `UnfJ` with its arguments in the order the relation lemmas of the traverser side
(`NodeRel`, `StepRel`, `LRel`) want: heap value first, tree second -/
def Unf (h : Heap) (v : Val) (j : J) : Prop := UnfJ h j v

def Ext (h h' : Heap) : Prop := ∀ (id : Nat) (o : Obj), h[id]? = some o → h'[id]? = some o

theorem Ext.refl (h : Heap) : Ext h h := fun _ _ hx => hx
theorem Ext.trans {a b c : Heap} (h1 : Ext a b) (h2 : Ext b c) : Ext a c := fun id o hx => h2 id o (h1 id o hx)

theorem ext_push (h : Heap) (o : Obj) : Ext h (h.push o) := by
  intro id o' hx
  rw [push_old h o id (lt_size_of_get hx), hx]

theorem fpJ_obj {h : Heap} {id : Nat} {es : List (String × Val)} (ho : h[id]? = some (.dict es))
    (kvs : List (String × J)) : fpJ h (.obj kvs) (.ref id) = id :: fpKvs h kvs es := by
  simp only [fpJ, ho]

theorem fpJ_arr {h : Heap} {id : Nat} {xs : List Val} (ho : h[id]? = some (.list xs)) (ys : List J) :
    fpJ h (.arr ys) (.ref id) = id :: fpList h ys xs := by
  simp only [fpJ, ho]

theorem fpKvs_cons (h : Heap) (k k' : String) (j : J) (v : Val) (kvs : List (String × J)) (es : List (String × Val)) :
    fpKvs h ((k, j) :: kvs) ((k', v) :: es) = fpJ h j v ++ fpKvs h kvs es := rfl

theorem fpList_cons (h : Heap) (j : J) (v : Val) (ys : List J) (xs : List Val) :
    fpList h (j :: ys) (v :: xs) = fpJ h j v ++ fpList h ys xs := rfl

-- The proofs by recursion on a tree and its stored value match on these two alone and take
-- their hypotheses by `fun`: all of them then share the matcher of `UnfJ`, and are far cheaper.
mutual
/-- what a value unfolds to, and through which objects, is decided by those objects alone: a
store that has each of them at its address unfolds the value the same way.  Allocation
(`Ext`) and a write elsewhere (the frame lemmas of `Refold.lean`) are the two uses. -/
theorem unf_congr {h : Heap} (h' : Heap) : ∀ {j : J} {v : Val}, UnfJ h j v →
    (∀ x ∈ fpJ h j v, ∀ o, h[x]? = some o → h'[x]? = some o) → UnfJ h' j v ∧ fpJ h' j v = fpJ h j v
  | .obj kvs, .ref id => fun hu hx => by
    obtain ⟨es, h1, h2⟩ := hu
    rw [fpJ_obj h1] at hx
    have hg := hx id (List.mem_cons_self ..) _ h1
    obtain ⟨q1, q2⟩ := unfKvs_congr h' h2 fun x m => hx x (List.mem_cons_of_mem _ m)
    exact ⟨⟨es, hg, q1⟩, by rw [fpJ_obj hg, fpJ_obj h1, q2]⟩
  | .arr ys, .ref id => fun hu hx => by
    obtain ⟨xs, h1, h2⟩ := hu
    rw [fpJ_arr h1] at hx
    have hg := hx id (List.mem_cons_self ..) _ h1
    obtain ⟨q1, q2⟩ := unfList_congr h' h2 fun x m => hx x (List.mem_cons_of_mem _ m)
    exact ⟨⟨xs, hg, q1⟩, by rw [fpJ_arr hg, fpJ_arr h1, q2]⟩
  | .obj _, .atom _ => fun hu _ => hu.elim
  | .arr _, .atom _ => fun hu _ => hu.elim
  | .null, _ => fun hu _ => ⟨hu, rfl⟩
  | .bool _, _ => fun hu _ => ⟨hu, rfl⟩
  | .int _, _ => fun hu _ => ⟨hu, rfl⟩
  | .half _, _ => fun hu _ => ⟨hu, rfl⟩
  | .str _, _ => fun hu _ => ⟨hu, rfl⟩
theorem unfKvs_congr {h : Heap} (h' : Heap) : ∀ {kvs : List (String × J)} {es : List (String × Val)}, UnfKvsJ h kvs es →
    (∀ x ∈ fpKvs h kvs es, ∀ o, h[x]? = some o → h'[x]? = some o) → UnfKvsJ h' kvs es ∧ fpKvs h' kvs es = fpKvs h kvs es
  | [], [] => fun _ _ => ⟨trivial, rfl⟩
  | (_, j) :: kvs, (_, v) :: es => fun hu hx =>
    have q := unf_congr h' hu.2.1 fun x m => hx x (List.mem_append_left _ m)
    have r := unfKvs_congr h' hu.2.2 fun x m => hx x (List.mem_append_right _ m)
    ⟨⟨hu.1, q.1, r.1⟩, by rw [fpKvs_cons, fpKvs_cons, q.2, r.2]⟩
  | [], _ :: _ => fun hu _ => hu.elim
  | _ :: _, [] => fun hu _ => hu.elim
theorem unfList_congr {h : Heap} (h' : Heap) : ∀ {ys : List J} {xs : List Val}, UnfListJ h ys xs →
    (∀ x ∈ fpList h ys xs, ∀ o, h[x]? = some o → h'[x]? = some o) → UnfListJ h' ys xs ∧ fpList h' ys xs = fpList h ys xs
  | [], [] => fun _ _ => ⟨trivial, rfl⟩
  | j :: ys, v :: xs => fun hu hx =>
    have q := unf_congr h' hu.1 fun x m => hx x (List.mem_append_left _ m)
    have r := unfList_congr h' hu.2 fun x m => hx x (List.mem_append_right _ m)
    ⟨⟨q.1, r.1⟩, by rw [fpList_cons, fpList_cons, q.2, r.2]⟩
  | [], _ :: _ => fun hu _ => hu.elim
  | _ :: _, [] => fun hu _ => hu.elim
end

/-- a value keeps unfolding to its tree while further objects are allocated (not while it is
written to: after a write it unfolds to the *new* tree, which is what the frame theorems describe) -/
theorem unf_survives_allocation (h h' : Heap) (v : Val) (j : J) (he : Ext h h') (hu : Unf h v j) : Unf h' v j :=
  (unf_congr h' hu fun x _ => he x).1

end Treepath
