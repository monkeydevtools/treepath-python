import Treepath.Spec.Eval
import Treepath.Model.Has
/- event lists: the results in them, the search's own attempts, the first `raised` event, the
part through it -/
namespace Treepath

@[simp] theorem resultsOf_nil {α} : resultsOf ([] : List (Ev α)) = [] := rfl
@[simp] theorem resultsOf_append {α} (a b : List (Ev α)) : resultsOf (a ++ b) = resultsOf a ++ resultsOf b :=
  List.filterMap_append
@[simp] theorem resultsOf_attempt {α} (l : MNode α) (vi : Nat) (nx st : Option (MNode α)) (t : List (Ev α)) :
    resultsOf (.attempt l vi nx st :: t) = resultsOf t := List.filterMap_cons_none rfl
@[simp] theorem resultsOf_predCall {α} (c : MNode α) (t : List (Ev α)) :
    resultsOf (.predCall c :: t) = resultsOf t := List.filterMap_cons_none rfl
@[simp] theorem resultsOf_result {α} (n : MNode α) (t : List (Ev α)) :
    resultsOf (.result n :: t) = n :: resultsOf t := List.filterMap_cons_some rfl

theorem resultsOf_eq_nil {α} {l : List (Ev α)} : resultsOf l = [] ↔ ∀ n, .result n ∉ l := by
  refine List.filterMap_eq_nil_iff.trans ⟨fun h n hm => by simpa using h _ hm, fun h e he => ?_⟩
  cases e with
  | result n => exact absurd he (h n)
  | _ => rfl

def firstRaise {α} : List (Ev α) → Option Exc
  | [] => none
  | .raised e :: _ => some e
  | _ :: t => firstRaise t

/- `firstRaise` and `takeThroughRaise` branch alike; in the inductions over them: 1 the empty list, 2 a raise at the
head, 3 any other head -/
theorem firstRaise_eq_none {α} {l : List (Ev α)} : firstRaise l = none ↔ ∀ x, .raised x ∉ l := by
  fun_induction firstRaise l with
  | case1 => exact ⟨fun _ _ h => (List.not_mem_nil h).elim, fun _ => rfl⟩
  | case2 y t => exact ⟨fun h => (by cases h), fun h => absurd List.mem_cons_self (h y)⟩
  | case3 e t hne ih =>
    rw [ih]
    exact ⟨fun h x hm => (List.mem_cons.mp hm).elim (fun he => hne x he.symm) (h x),
      fun h x hm => h x (List.mem_cons_of_mem _ hm)⟩

theorem firstRaise_append {α} (a b : List (Ev α)) :
    firstRaise (a ++ b) = match firstRaise a with | some e => some e | none => firstRaise b := by
  fun_induction firstRaise a with
  | case1 => rfl
  | case2 => rfl
  | case3 e t hne ih => rw [List.cons_append, firstRaise.eq_3 _ _ hne]; exact ih

theorem ttr_append_none {α} {a : List (Ev α)} (b : List (Ev α)) (h : firstRaise a = none) :
    takeThroughRaise (a ++ b) = a ++ takeThroughRaise b := by
  fun_induction firstRaise a with
  | case1 => rfl
  | case2 => cases h
  | case3 e t hne ih => rw [List.cons_append, takeThroughRaise.eq_3 _ _ hne, ih h]; rfl

theorem ttr_append_some {α} {a : List (Ev α)} (b : List (Ev α)) {e : Exc} (h : firstRaise a = some e) :
    takeThroughRaise (a ++ b) = takeThroughRaise a := by
  fun_induction firstRaise a with
  | case1 => cases h
  | case2 => rfl
  | case3 x t hne ih => rw [List.cons_append, takeThroughRaise.eq_3 _ _ hne, takeThroughRaise.eq_3 _ _ hne, ih h]

theorem ttr_noraise {α} (a : List (Ev α)) (h : firstRaise a = none) : takeThroughRaise a = a := by
  simpa [takeThroughRaise] using ttr_append_none [] h

theorem firstRaise_ttr {α} (l : List (Ev α)) : firstRaise (takeThroughRaise l) = firstRaise l := by
  fun_induction takeThroughRaise l with
  | case1 => rfl
  | case2 => rfl
  | case3 e t hne ih => rw [firstRaise.eq_3 _ _ hne, firstRaise.eq_3 _ _ hne, ih]

theorem ttr_prefix {α} (evs : List (Ev α)) : takeThroughRaise evs <+: evs := by
  fun_induction takeThroughRaise evs with
  | case1 => exact List.prefix_refl _
  | case2 e t => exact ⟨t, rfl⟩
  | case3 e t hne ih => exact (List.prefix_cons_inj _).mpr ih

theorem resultsOf_flatten_replicate {α} {evs : List (Ev α)} (h : resultsOf evs = []) (m : Nat) :
    resultsOf (List.replicate m evs).flatten = [] :=
  resultsOf_eq_nil.mpr fun n hm => by
    obtain ⟨l, hl, hx⟩ := List.mem_flatten.mp hm
    rw [List.eq_of_mem_replicate hl] at hx
    exact resultsOf_eq_nil.mp h n hx

theorem firstRaise_flatten_replicate {α} (evs : List (Ev α)) (e : Exc) (h : firstRaise evs = some e) (m : Nat) (hm : 0 < m) :
    firstRaise (List.replicate m evs).flatten = some e := by
  cases m with
  | zero => omega
  | succ m => simp [List.replicate_succ, firstRaise_append, h]

@[simp] theorem attemptsTop_nil {α} : attemptsTop ([] : List (Ev α)) = 0 := rfl
theorem attemptsTop_append {α} (a b : List (Ev α)) : attemptsTop (a ++ b) = attemptsTop a + attemptsTop b :=
  List.countP_append
theorem attemptsTop_attempt {α} (l : MNode α) (vi : Nat) (nx : Option (MNode α)) (t : List (Ev α)) :
    attemptsTop (.attempt l vi nx none :: t) = 1 + attemptsTop t :=
  (List.countP_cons_of_pos rfl).trans (Nat.add_comm _ _)
theorem attemptsTop_result {α} (n : MNode α) (t : List (Ev α)) : attemptsTop (.result n :: t) = attemptsTop t :=
  List.countP_cons_of_neg Bool.false_ne_true
theorem attemptsTop_predCall {α} (n : MNode α) (t : List (Ev α)) : attemptsTop (.predCall n :: t) = attemptsTop t :=
  List.countP_cons_of_neg Bool.false_ne_true
theorem attemptsTop_raised {α} (e : Exc) (t : List (Ev α)) : attemptsTop (.raised e :: t) = attemptsTop t :=
  List.countP_cons_of_neg Bool.false_ne_true

theorem attemptsTop_eq_zero {α} {evs : List (Ev α)} :
    attemptsTop evs = 0 ↔ ∀ l vi nx, .attempt l vi nx none ∉ evs := by
  refine List.countP_eq_zero.trans ⟨fun h l vi nx hm => by simpa using h _ hm, fun h e he => ?_⟩
  cases e with
  | attempt l vi nx st =>
    cases st with
    | none => exact absurd he (h l vi nx)
    | some _ => simp
  | _ => simp

theorem filterMap_of_stamped {α γ} {f : Ev α → Option γ}
    (hf : ∀ e c, f e = some c → ∃ l vi nx, e = .attempt l vi nx none) {evs : List (Ev α)}
    (h : attemptsTop evs = 0) : evs.filterMap f = [] := by
  refine List.filterMap_eq_nil_iff.mpr fun e he => Option.eq_none_iff_forall_ne_some.mpr fun c hc => ?_
  obtain ⟨l, vi, nx, rfl⟩ := hf e c hc
  exact attemptsTop_eq_zero.mp h l vi nx he

theorem resultsOf_clean {α} (l : List (Ev α)) (h : ∀ e ∈ l, e.isClean = true) : resultsOf l = [] :=
  resultsOf_eq_nil.mpr fun n hm => by simpa [Ev.isClean] using h _ hm

theorem firstRaise_clean {α} (l : List (Ev α)) (h : ∀ e ∈ l, e.isClean = true) : firstRaise l = none :=
  firstRaise_eq_none.mpr fun x hm => by simpa [Ev.isClean] using h _ hm

end Treepath
