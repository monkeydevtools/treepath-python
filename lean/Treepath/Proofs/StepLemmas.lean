import Treepath.Spec.Eval
import Treepath.Proofs.SliceLemmas
/-
What one step selects at one node: `singleOf`, `itemsOf` and `evalStep` characterised by step
class and by the view of the node's value, generic in the document type.
At the end, how a step raises and which events precede its attempt (`StepRaises`, `PredEvs`): the
vocabulary both machines' case analyses are stated in.
-/
namespace Treepath
variable {α : Type}

theorem lookup_cons_ne {β} {k k' : String} {v : β} {es : List (String × β)} (h : k ≠ k') :
    List.lookup k ((k', v) :: es) = List.lookup k es := by
  have : (k == k') = false := by simp [h]
  simp [List.lookup, this]

theorem mem_of_lookup {β} {es : List (String × β)} {k : String} {x : β} (h : es.lookup k = some x) : (k, x) ∈ es := by
  obtain ⟨l₁, l₂, rfl, _⟩ := List.lookup_eq_some_iff.mp h
  simp

theorem lookup_of_mem_uniq {β} (es : List (String × β)) (k : String) (x : β) (hm : (k, x) ∈ es)
    (hn : (es.map Prod.fst).Nodup) : es.lookup k = some x := by
  obtain ⟨l₁, l₂, rfl⟩ := List.append_of_mem hm
  rw [List.map_append, List.map_cons, List.nodup_append] at hn
  exact List.lookup_eq_some_iff.mpr ⟨l₁, l₂, rfl, fun p hp =>
    bne_iff_ne.mpr fun e => hn.2.2 p.1 (List.mem_map.mpr ⟨p, hp, rfl⟩) k (List.mem_cons_self ..) e.symm⟩

theorem getPy?_value {β} {xs : List β} {i : Int} {x : β} (h : getPy? xs i = some x) : x ∈ xs := by
  unfold getPy? at h
  split at h
  · exact List.mem_of_getElem? h
  · split at h
    · exact List.mem_of_getElem? h
    · cases h

theorem getPy?_nonneg {β} (xs : List β) (i : Int) (h : 0 ≤ i) : getPy? xs i = xs[i.toNat]? := by
  simp [getPy?, h]

theorem enumFrom_mem {β} (xs : List β) (n i : Nat) (x : β) (h : (i, x) ∈ enumFrom n xs) :
    n ≤ i ∧ xs[i - n]? = some x := by
  induction xs generalizing n with
  | nil => simp [enumFrom] at h
  | cons y ys ih =>
    rcases List.mem_cons.mp h with h | h
    · cases h; simp
    · obtain ⟨h1, h2⟩ := ih (n+1) h
      exact ⟨Nat.le_of_succ_le h1, by rw [← Nat.sub_add_cancel (Nat.sub_pos_of_lt h1), List.getElem?_cons_succ]; exact h2⟩

def View.values : View α → List α
  | .scalar => []
  | .dict es => es.map Prod.snd
  | .list xs => xs

theorem view_of_scalar (j : J) (h : j.isContainer = false) : j.view = .scalar := by
  cases j with
  | arr | obj => cases h
  | _ => rfl

theorem childAt_value {v : View α} {nm : Name} {x : α} (h : childAt v nm = some x) : x ∈ v.values := by
  cases nm with
  | key k =>
    cases v with
    | dict es => exact List.mem_map.mpr ⟨_, mem_of_lookup h, rfl⟩
    | scalar | list => cases h
  | idx i =>
    cases v with
    | list xs => exact getPy?_value h
    | scalar | dict => cases h

theorem dictItems_mem (es : List (String × α)) (nm : Name) (x : α) (h : (nm, x) ∈ dictItems es)
    (hn : (es.map Prod.fst).Nodup) : childAt (.dict es) nm = some x := by
  obtain ⟨⟨k, y⟩, hm, he⟩ := List.mem_map.mp h
  cases he
  exact lookup_of_mem_uniq es k x hm hn

theorem listItems_mem (xs : List α) (nm : Name) (x : α) (h : (nm, x) ∈ listItems xs) :
    childAt (.list xs) nm = some x := by
  obtain ⟨⟨i, y⟩, hm, he⟩ := List.mem_map.mp h
  cases he
  rw [childAt, getPy?_nonneg xs i (Int.natCast_nonneg i)]
  simpa using (enumFrom_mem xs 0 i x hm).2

theorem allItems_mem (v : View α) (hn : ∀ es, v = .dict es → (es.map Prod.fst).Nodup) (its : List (Name × α))
    (h : allItems v = some its) : ∀ p ∈ its, childAt v p.1 = some p.2 := by
  intro p hp
  cases v with
  | scalar => cases h
  | dict es => cases h; exact dictItems_mem es p.1 p.2 hp (hn es rfl)
  | list xs => cases h; exact listItems_mem xs p.1 p.2 hp

theorem allItems_value (v : View α) (its : List (Name × α)) (h : allItems v = some its) :
    ∀ p ∈ its, p.2 ∈ v.values := by
  intro p hp
  cases v with
  | scalar => cases h
  | dict es =>
    cases h
    obtain ⟨e, he, rfl⟩ := List.mem_map.mp hp
    exact List.mem_map.mpr ⟨e, he, rfl⟩
  | list xs => cases h; exact childAt_value (listItems_mem xs p.1 p.2 hp)

theorem singleOf_key (view : α → View α) (k : String) (n : MNode α) :
    singleOf view (.key k) n = (childAt (view n.data) (.key k)).map (MNode.child n (.key k)) := by
  simp only [singleOf, childAt]; split <;> rfl

theorem singleOf_idx (view : α → View α) (i : Int) (n : MNode α) :
    singleOf view (.idx i) n = (childAt (view n.data) (.idx i)).map (MNode.child n (.idx i)) := by
  simp only [singleOf, childAt]; split <;> rfl

theorem singleOf_child (view : α → View α) (s : Step α) (n m : MNode α) (hs : s.isChild = true)
    (h : singleOf view s n = some m) : ∃ nm x, childAt (view n.data) nm = some x ∧ m = .child n nm x := by
  cases s with
  | key k =>
    rw [singleOf_key, Option.map_eq_some_iff] at h
    obtain ⟨x, hx, rfl⟩ := h
    exact ⟨_, x, hx, rfl⟩
  | idx i =>
    rw [singleOf_idx, Option.map_eq_some_iff] at h
    obtain ⟨x, hx, rfl⟩ := h
    exact ⟨_, x, hx, rfl⟩
  | parent => cases hs
  | _ => cases h

theorem singleOf_some {view : α → View α} {s : Step α} {n n' : MNode α} (h : singleOf view s n = some n') :
    (∃ nm x, childAt (view n.data) nm = some x ∧ n' = .child n nm x) ∨ ∃ t, n.remParent = some t ∧ n' = .par t n := by
  cases s with
  | key k => exact .inl (singleOf_child view _ n n' rfl h)
  | idx i => exact .inl (singleOf_child view _ n n' rfl h)
  | parent =>
    obtain ⟨t, ht, rfl⟩ := Option.map_eq_some_iff.1 h
    exact .inr ⟨t, ht, rfl⟩
  | _ => cases h

theorem singleOf_scalar (view : α → View α) (s : Step α) (n : MNode α) (hs : s.isChild = true)
    (hv : view n.data = .scalar) : singleOf view s n = none := by
  cases h : singleOf view s n with
  | none => rfl
  | some m =>
    obtain ⟨nm, x, hx, _⟩ := singleOf_child view s n m hs h
    rw [hv] at hx
    cases nm <;> cases hx

theorem itemsOf_scalar (s : Step α) : itemsOf s .scalar = .wrongKind := by cases s <;> rfl

theorem itemsOf_tuple (ns : List Name) (v : View α) :
    itemsOf (.tuple ns) v =
      match v with
      | .scalar => .wrongKind
      | v => .ok (ns.filterMap fun n => (childAt v n).map fun x => (n, x)) := by
  cases v with
  | scalar => rfl
  | dict es => exact congrArg (fun f => Items.ok (ns.filterMap f)) (funext fun n => by cases n <;> rfl)
  | list xs => exact congrArg (fun f => Items.ok (ns.filterMap f)) (funext fun n => by cases n <;> rfl)

theorem itemsOf_ok {s : Step α} {v : View α} {its : List (Name × α)} (h : itemsOf s v = .ok its) :
    allItems v = some its ∨
    (∃ ns : List Name, s = .tuple ns ∧ its = ns.filterMap fun n => (childAt v n).map fun x => (n, x)) ∨
    ∃ a b c xs its0, s = .slice a b c ∧ v = .list xs ∧ sliceItems a b c xs = some its0 ∧
      its = its0.map fun (i, x) => (Name.idx i, x) := by
  revert h
  -- 1–4 a wildcard on its kind of container; a slice on a list: 5 refused, 6 taken; a comma list: 7 on a dict,
  -- 8 on a list; 9 anything else
  fun_cases itemsOf s v <;> intro h <;> cases h
  case case1 | case2 | case3 | case4 => exact .inl rfl
  case case6 a b c xs its0 hsl => exact .inr (.inr ⟨a, b, c, xs, its0, rfl, rfl, hsl, rfl⟩)
  case case7 ns es =>
    exact .inr (.inl ⟨ns, rfl, congrArg (ns.filterMap ·) (funext fun n => by cases n <;> rfl)⟩)
  case case8 ns xs =>
    exact .inr (.inl ⟨ns, rfl, congrArg (ns.filterMap ·) (funext fun n => by cases n <;> rfl)⟩)

theorem itemsOf_value (s : Step α) (v : View α) (its : List (Name × α)) (h : itemsOf s v = .ok its) :
    ∀ p ∈ its, p.2 ∈ v.values := by
  intro p hp
  rcases itemsOf_ok h with hall | ⟨ns, -, rfl⟩ | ⟨a, b, c, xs, its0, -, rfl, hsl, rfl⟩
  · exact allItems_value v its hall p hp
  · obtain ⟨n, _, hnx⟩ := List.mem_filterMap.mp hp
    obtain ⟨x, hx, rfl⟩ := Option.map_eq_some_iff.mp hnx
    exact childAt_value hx
  · obtain ⟨q, hq, rfl⟩ := List.mem_map.mp hp
    exact List.mem_of_getElem? (mem_sliceItems a b c xs its0 hsl q hq).2

theorem itemsOf_mem (s : Step α) (v : View α) (hn : ∀ es, v = .dict es → (es.map Prod.fst).Nodup)
    (its : List (Name × α)) (h : itemsOf s v = .ok its) : ∀ p ∈ its, childAt v p.1 = some p.2 := by
  intro p hp
  rcases itemsOf_ok h with hall | ⟨ns, -, rfl⟩ | ⟨a, b, c, xs, its0, -, rfl, hsl, rfl⟩
  · exact allItems_mem v hn its hall p hp
  · obtain ⟨n, _, hnx⟩ := List.mem_filterMap.mp hp
    obtain ⟨x, hx, rfl⟩ := Option.map_eq_some_iff.mp hnx
    exact hx
  · obtain ⟨q, hq, rfl⟩ := List.mem_map.mp hp
    obtain ⟨h0, hx⟩ := mem_sliceItems a b c xs its0 hsl q hq
    rw [childAt, getPy?_nonneg xs q.1 h0]
    exact hx

theorem evalStep_single (s : Step J) (n : MNode J) (hc : s.cls = .single) :
    evalStep s n = ((singleOf J.view s n).toList, none) := by
  simp only [evalStep, hc]

theorem evalStep_items (s : Step J) (n : MNode J) (its : List (Name × J)) (hc : s.cls = .multi)
    (h : itemsOf s n.data.view = .ok its) : evalStep s n = (its.map fun (nm, x) => MNode.child n nm x, none) := by
  simp only [evalStep, hc, h]

theorem evalStep_wrongKind (s : Step J) (n : MNode J) (hc : s.cls = .multi)
    (h : itemsOf s n.data.view = .wrongKind) : evalStep s n = ([], none) := by
  simp only [evalStep, hc, h]

theorem evalStep_valueError (s : Step J) (n : MNode J) (hc : s.cls = .multi)
    (h : itemsOf s n.data.view = .valueError) : evalStep s n = ([], some (.user "ValueError")) := by
  simp only [evalStep, hc, h]

theorem Step.eq_recur_of_cls {s : Step α} (h : s.cls = .recur) : s = .recur := by
  cases s with
  | recur => rfl
  | _ => cases h

theorem Step.eq_filter_of_cls {s : Step α} (h : s.cls = .filter) : ∃ f, s = .filter f := by
  cases s with
  | filter f => exact ⟨f, rfl⟩
  | _ => cases h

theorem Step.ne_filter_of_isChild {s : Step α} (h : s.isChild = true) (f : Pred α) : s ≠ .filter f :=
  fun e => by subst e; cases h

theorem cls_of_isChild (s : Step α) (hs : s.isChild = true) : s.cls = .single ∨ s.cls = .multi := by
  cases s with
  | key _ | idx _ => exact .inl rfl
  | recur | parent | filter _ => cases hs
  | _ => exact .inr rfl

theorem evalStep_filter (f : Pred J) (n : MNode J) : (evalStep (.filter f) n).1.Sublist [.imag n] := by
  simp only [evalStep, Step.cls]
  split
  · split
    · exact .refl _
    · exact List.nil_sublist _
  · exact List.nil_sublist _

theorem evalStep_child (s : Step J) (n m : MNode J) (hs : s.isChild = true) (hm : m ∈ (evalStep s n).1) :
    ∃ nm x, m = .child n nm x ∧ x ∈ n.data.view.values := by
  rcases cls_of_isChild s hs with hc | hc
  · rw [evalStep_single s n hc, Option.mem_toList] at hm
    obtain ⟨nm, x, hx, rfl⟩ := singleOf_child J.view s n m hs hm
    exact ⟨nm, x, rfl, childAt_value hx⟩
  · cases h : itemsOf s n.data.view with
    | ok its =>
      rw [evalStep_items s n its hc h] at hm
      obtain ⟨p, hp, rfl⟩ := List.mem_map.mp hm
      exact ⟨p.1, p.2, rfl, itemsOf_value s _ its h p hp⟩
    | wrongKind => rw [evalStep_wrongKind s n hc h] at hm; cases hm
    | valueError => rw [evalStep_valueError s n hc h] at hm; cases hm

theorem take_succ_of_get {β} (l : List β) (n : Nat) (x : β) (h : l[n]? = some x) : l.take (n+1) = l.take n ++ [x] := by
  rw [List.take_add_one, h]; rfl

/-- how a step raises on node `n`: a filter whose predicate raises (the exception wrapped in
`TraversingError`, after the predicate's own events), or a slice with a zero step (a bare
`ValueError`); with the exception, the events emitted -/
inductive StepRaises (view : α → View α) (s : Step α) (n : MNode α) : Exc → List (Ev α) → Prop
  | pred (f : Pred α) (x : Exc) : s = .filter f → (f n).res = .raise x →
      StepRaises view s n (.traversing x) (.predCall n :: (f n).evs ++ [.raised (.traversing x)])
  | zeroStep : itemsOf s (view n.data) = .valueError →
      StepRaises view s n (.user "ValueError") [.raised (.user "ValueError")]

/-- the events of an attempt before its closing `attempt` event -/
def PredEvs (s : Step α) (n : MNode α) (pre : List (Ev α)) : Prop :=
  pre = [] ∨ ∃ f, s = .filter f ∧ pre = .predCall n :: (f n).evs

end Treepath
