import Treepath.Spec.Eval
/- basic algebra of the L3 evaluator -/
namespace Treepath

@[simp] theorem seqFlat_nil (k : MNode J → Res) : seqFlat k [] = ([], none) := rfl

theorem eval_nil (n : MNode J) : eval [] n = [n] := rfl

theorem flatMap_congr' {β γ} {f g : β → List γ} {l : List β} (h : ∀ x ∈ l, f x = g x) :
    l.flatMap f = l.flatMap g :=
  congrArg List.flatten (List.map_congr_left h)

def Step.isRecur {α} : Step α → Bool
  | .recur => true
  | _ => false

def notEndsInRecur {α} : List (Step α) → Bool
  | [] => true
  | [s] => !s.isRecur
  | _ :: rest => notEndsInRecur rest

theorem notEndsInRecur_of_forall {α} (p : List (Step α)) (h : ∀ s ∈ p, s.isRecur = false) : notEndsInRecur p = true := by
  induction p with
  | nil => rfl
  | cons s rest ih =>
    cases rest with
    | nil => simp [notEndsInRecur, h s]
    | cons t ts => simpa [notEndsInRecur] using ih fun x hx => h x (List.mem_cons_of_mem _ hx)

def Res.append (a b : Res) : Res :=
  match a.2 with
  | some _ => a
  | none => (a.1 ++ b.1, b.2)

theorem Res.append_assoc (a b c : Res) : (a.append b).append c = a.append (b.append c) := by
  rcases a with ⟨a1, a2⟩; rcases b with ⟨b1, b2⟩; rcases c with ⟨c1, c2⟩
  cases a2 <;> cases b2 <;> simp [Res.append, List.append_assoc]

theorem Res.append_nil_none (a : Res) : a.append ([], none) = a := by
  rcases a with ⟨a1, a2⟩; cases a2 <;> simp [Res.append]

theorem Res.nil_none_append (a : Res) : Res.append ([], none) a = a := by
  rcases a with ⟨a1, a2⟩; simp [Res.append]

theorem seqFlat_cons' (k : MNode J → Res) (n : MNode J) (ns : List (MNode J)) :
    seqFlat k (n :: ns) = (k n).append (seqFlat k ns) := by
  rcases hk : k n with ⟨out, e⟩
  cases e <;> simp [seqFlat, hk, Res.append]

theorem seqFlat_single (k : MNode J → Res) (n : MNode J) : seqFlat k [n] = k n := by
  rw [seqFlat_cons', seqFlat_nil, Res.append_nil_none]

theorem seqFlat_noraise {k : MNode J → Res} {ns : List (MNode J)} (h : ∀ n ∈ ns, (k n).2 = none) :
    seqFlat k ns = (ns.flatMap (fun n => (k n).1), none) := by
  induction ns with
  | nil => rfl
  | cons n ns ih =>
    rw [seqFlat_cons', ih fun m hm => h m (List.mem_cons_of_mem _ hm), Res.append, h n List.mem_cons_self]
    rfl

theorem seqFlat_pure (f : MNode J → List (MNode J)) (ns : List (MNode J)) :
    seqFlat (fun m => (f m, none)) ns = (ns.flatMap f, none) :=
  seqFlat_noraise fun _ _ => rfl

theorem seqFlat_append (k : MNode J → Res) (xs ys : List (MNode J)) :
    seqFlat k (xs ++ ys) = (seqFlat k xs).append (seqFlat k ys) := by
  induction xs with
  | nil => simp [seqFlat, Res.append]
  | cons x xs ih => rw [List.cons_append, seqFlat_cons', seqFlat_cons', ih, Res.append_assoc]

/-- sequential composition: run `k` on every result of `r` in order; the first exception
(met while running `k`, or the one that ended `r`) ends the whole evaluation -/
def bindRes (r : Res) (k : MNode J → Res) : Res := (seqFlat k r.1).append ([], r.2)

theorem bindRes_append (a b : Res) (k : MNode J → Res) :
    bindRes (a.append b) k = (bindRes a k).append (bindRes b k) := by
  rcases a with ⟨a1, a2⟩
  cases a2 with
  | some e =>
    -- `a` raised: so do both sides, before anything of `b`
    simp only [bindRes, Res.append]
    rcases seqFlat k a1 with ⟨o, e'⟩
    cases e' <;> simp
  | none =>
    show (seqFlat k (a1 ++ b.1)).append ([], b.2) = ((seqFlat k a1).append ([], none)).append (bindRes b k)
    rw [seqFlat_append, Res.append_assoc, Res.append_nil_none]
    rfl

theorem seqFlat_bind (g k : MNode J → Res) (ns : List (MNode J)) :
    seqFlat (fun m => bindRes (g m) k) ns = bindRes (seqFlat g ns) k := by
  induction ns with
  | nil => simp [seqFlat, bindRes, Res.append]
  | cons n ns ih => rw [seqFlat_cons', ih, seqFlat_cons', bindRes_append]

theorem bindRes_nil (e : Option Exc) (k : MNode J → Res) : bindRes ([], e) k = ([], e) := by
  simp [bindRes, seqFlat, Res.append]

theorem bindRes_assoc (r : Res) (g k : MNode J → Res) :
    bindRes (bindRes r g) k = bindRes r (fun m => bindRes (g m) k) := by
  show bindRes ((seqFlat g r.1).append ([], r.2)) k = (seqFlat (fun m => bindRes (g m) k) r.1).append ([], r.2)
  rw [bindRes_append, bindRes_nil, seqFlat_bind]

theorem bindRes_pure (n : MNode J) (k : MNode J → Res) : bindRes ([n], none) k = k n := by
  simp only [bindRes, seqFlat_single]
  exact Res.append_nil_none _

theorem Step.isRecur_eq_false {α} {s : Step α} (h : s.cls ≠ .recur) : s.isRecur = false := by
  cases s <;> first | rfl | exact absurd rfl h

theorem evalE_cons_bind {s : Step J} {rest : List (Step J)} {n : MNode J} (hs : s.isRecur = false) :
    evalE (s :: rest) n = bindRes (evalStep s n) (evalE rest) := by
  rw [evalE.eq_3 _ _ _ fun h => by subst h; cases hs]
  rcases evalStep s n with ⟨ns, e⟩
  simp only [bindRes, Res.append]
  rcases hsf : seqFlat (evalE rest) ns with ⟨o, e'⟩
  cases e <;> cases e' <;> simp [hsf]

/-- what the recursive step hands to the rest of the path at one pre-order node -/
def recPiece (last : Bool) (m : MNode J) : List (MNode J) :=
  if m.data.isContainer then [.imag m] else if last then [m] else []

def recCands (last : Bool) (n : MNode J) : List (MNode J) := (recNodes n).flatMap (recPiece last)

theorem evalE_recur (rest : List (Step J)) (n : MNode J) :
    evalE (.recur :: rest) n = bindRes (recCands rest.isEmpty n, none) (evalE rest) := by
  have : ∀ m : MNode J, (if m.data.isContainer then evalE rest (.imag m)
      else if rest.isEmpty then ([m], none) else ([], none)) = bindRes (recPiece rest.isEmpty m, none) (evalE rest) := by
    intro m
    simp only [recPiece]
    split
    · rw [bindRes_pure]
    · cases rest <;> simp [bindRes_pure, bindRes_nil, evalE]
  simp only [evalE, this, seqFlat_bind, seqFlat_pure, recCands]

theorem evalE_cons (s : Step J) (rest : List (Step J)) (n : MNode J) :
    evalE (s :: rest) n =
      bindRes (if s.isRecur then (recCands rest.isEmpty n, none) else evalStep s n) (evalE rest) := by
  cases hr : s.isRecur with
  | false => exact evalE_cons_bind hr
  | true =>
    cases s with
    | recur => exact evalE_recur rest n
    | _ => cases hr

/-- **Concatenation law** (C12): for `p` not ending in a recursive step, evaluating `p ++ q`
is evaluating `q` from each result of `p`, in order. -/
theorem evalE_append (p q : List (Step J)) (hp : notEndsInRecur p = true) (n : MNode J) :
    evalE (p ++ q) n = bindRes (evalE p n) (evalE q) := by
  induction p generalizing n with
  | nil => simp [evalE, bindRes_pure]
  | cons s rest ih =>
    have hp' : notEndsInRecur rest = true := by
      cases rest with
      | nil => rfl
      | cons t r => simpa [notEndsInRecur] using hp
    -- a recursive first step is not the last step of `p`, so its share is the same before `rest ++ q`
    have hX : (if s.isRecur then ((recCands (rest ++ q).isEmpty n, none) : Res) else evalStep s n) =
        if s.isRecur then (recCands rest.isEmpty n, none) else evalStep s n := by
      cases rest with
      | nil =>
        have : s.isRecur = false := by simpa [notEndsInRecur] using hp
        simp [this]
      | cons t r => rfl
    rw [List.cons_append, evalE_cons, evalE_cons, hX, funext fun m => ih hp' m, bindRes_assoc]

theorem bindRes_fst (r : Res) (k : MNode J → Res) : (bindRes r k).1 = (seqFlat k r.1).1 := by
  simp only [bindRes, Res.append]
  split <;> simp

theorem seqFlat_fst_sublist (k : MNode J → Res) (ns : List (MNode J)) :
    (seqFlat k ns).1.Sublist (ns.flatMap fun n => (k n).1) := by
  induction ns with
  | nil => exact .slnil
  | cons n ns ih =>
    rw [seqFlat_cons']
    simp only [Res.append, List.flatMap_cons]
    split
    · exact List.sublist_append_left _ _
    · exact (List.Sublist.refl _).append ih

theorem mem_seqFlat {k : MNode J → Res} {ns : List (MNode J)} {m : MNode J} (h : m ∈ (seqFlat k ns).1) :
    ∃ a ∈ ns, m ∈ (k a).1 :=
  List.mem_flatMap.mp ((seqFlat_fst_sublist k ns).subset h)

end Treepath
