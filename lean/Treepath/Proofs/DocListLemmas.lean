import Treepath.Model.DocList
import Treepath.Proofs.HeapLemmas
/- the list view's operations outcome by outcome; the in-place compaction loop of `keep_all`
computes `filterMap` (a predicate without memory is the stateful one at the unit state) -/
namespace Treepath

theorem listOf_some {h : Heap} {id : Nat} {xs : List Val} : listOf h id = some xs ↔ h[id]? = some (.list xs) := by
  unfold listOf
  split
  · rename_i ys hy; simp [hy]
  · rename_i hn
    exact ⟨nofun, fun ho => (hn xs ho).elim⟩

theorem lSet_ok {c : Conv} {h h' : Heap} {id : Nat} {i : Int} {v : Val} (hop : lSet c h id i v = some h') :
    ∃ xs p, h[id]? = some (.list xs) ∧ normIndex xs.length i = some p ∧ h' = hput h id (.list (xs.set p (c.unwrap v))) := by
  obtain ⟨xs, hl, hop⟩ := Option.bind_eq_some_iff.mp hop
  obtain ⟨xs', hs, rfl⟩ := Option.map_eq_some_iff.mp hop
  obtain ⟨p, hp, rfl⟩ := listSet_spec hs
  exact ⟨xs, p, listOf_some.mp hl, hp, rfl⟩

theorem lDel_ok {h h' : Heap} {id : Nat} {i : Int} (hop : lDel h id i = some h') :
    ∃ xs p x, h[id]? = some (.list xs) ∧ normIndex xs.length i = some p ∧ xs[p]? = some x ∧
      h' = hput h id (.list (xs.eraseIdx p)) := by
  obtain ⟨xs, hl, hop⟩ := Option.bind_eq_some_iff.mp hop
  obtain ⟨⟨x, xs'⟩, hd, rfl⟩ := Option.map_eq_some_iff.mp hop
  obtain ⟨p, hp, hx, rfl⟩ := listDel_spec hd
  exact ⟨xs, p, x, listOf_some.mp hl, hp, hx, rfl⟩

theorem lAppend_ok {c : Conv} {h h' : Heap} {id : Nat} {v : Val} (hop : lAppend c h id v = some h') :
    ∃ xs, h[id]? = some (.list xs) ∧ h' = hput h id (.list (xs ++ [c.unwrap v])) := by
  obtain ⟨xs, hl, rfl⟩ := Option.map_eq_some_iff.mp hop
  exact ⟨xs, listOf_some.mp hl, rfl⟩

theorem lPop_ok {c : Conv} {h h' : Heap} {id : Nat} {i : Int} {r : Val} (hop : lPop c h id i = some (h', r)) :
    ∃ xs p x, h[id]? = some (.list xs) ∧ normIndex xs.length i = some p ∧ xs[p]? = some x ∧ r = c.wrap x ∧
      lDel h id i = some h' := by
  obtain ⟨xs, hl, hop⟩ := Option.bind_eq_some_iff.mp hop
  obtain ⟨⟨x, xs'⟩, hd, he⟩ := Option.map_eq_some_iff.mp hop
  obtain ⟨p, hp, hx, rfl⟩ := listDel_spec hd
  cases he
  exact ⟨xs, p, x, listOf_some.mp hl, hp, hx, rfl, by simp [lDel, hl, hd]⟩

theorem lKeepAll_ok {c : Conv} {keep : Val → Bool} {h h' : Heap} {id : Nat} (hop : lKeepAll c keep h id = some h') :
    ∃ xs, h[id]? = some (.list xs) ∧ h' = hput h id (.list (keepAllList (keepFn c keep) xs)) := by
  obtain ⟨xs, hl, rfl⟩ := Option.map_eq_some_iff.mp hop
  exact ⟨xs, listOf_some.mp hl, rfl⟩

theorem filterMap_keepFn (c : Conv) (keep : Val → Bool) (l : List Val) :
    l.filterMap (keepFn c keep) = (l.filter fun x => keep (c.wrap x)).map fun x => c.unwrap (c.wrap x) := by
  induction l with
  | nil => rfl
  | cons x l ih =>
    by_cases hk : keep (c.wrap x) = true
    · simp [keepFn, hk, ih]
    · simp only [Bool.not_eq_true] at hk
      simp [keepFn, hk, ih]

theorem filterMapS_cons {σ : Type} (f : σ → Val → σ × Option Val) (s : σ) (x : Val) (l : List Val) :
    filterMapS f s (x :: l) =
      ((f s x).2.toList ++ (filterMapS f (f s x).1 l).1, (filterMapS f (f s x).1 l).2) := by
  rw [filterMapS]
  rcases f s x with ⟨s', _ | y⟩ <;> rfl

theorem filterMapS_append {σ : Type} (f : σ → Val → σ × Option Val) (s : σ) (a b : List Val) :
    filterMapS f s (a ++ b) =
      ((filterMapS f s a).1 ++ (filterMapS f (filterMapS f s a).2 b).1, (filterMapS f (filterMapS f s a).2 b).2) := by
  induction a generalizing s with
  | nil => rfl
  | cons x a ih => rw [List.cons_append, filterMapS_cons, filterMapS_cons, ih, List.append_assoc]

/-- the loop appends, to the prefix written so far, what `filterMapS` keeps of the unread part -/
theorem keepLoopS_run {σ : Type} (f : σ → Val → σ × Option Val) (fuel : Nat) (s : σ) (data : List Val) (r wr : Nat)
    (hwr : wr ≤ r) (hfuel : data.length - r ≤ fuel) :
    (keepLoopS f fuel s data r wr).1.take (keepLoopS f fuel s data r wr).2.1 =
        data.take wr ++ (filterMapS f s (data.drop r)).1 ∧
      (keepLoopS f fuel s data r wr).2.2 = (filterMapS f s (data.drop r)).2 ∧
      (keepLoopS f fuel s data r wr).1.length = data.length := by
  fun_induction keepLoopS f fuel s data r wr with
  | case1 =>
    rw [List.drop_eq_nil_of_le (Nat.le_of_sub_eq_zero (Nat.le_zero.mp hfuel))]
    exact ⟨(List.append_nil _).symm, rfl, rfl⟩
  | case2 _ _ data r _ hx =>
    rw [List.drop_eq_nil_of_le (List.getElem?_eq_none_iff.mp hx)]
    exact ⟨(List.append_nil _).symm, rfl, rfl⟩
  | case3 fuel s data r wr x hx s' y hf ih =>
    obtain ⟨hlt, rfl⟩ := List.getElem?_eq_some_iff.mp hx
    rw [List.drop_eq_getElem_cons hlt, filterMapS_cons, hf]
    rw [List.length_set, List.drop_set_of_lt (Nat.lt_succ_of_le hwr), List.take_add_one,
      List.take_set_of_le (Nat.le_refl _), List.getElem?_set_self (Nat.lt_of_le_of_lt hwr hlt)] at ih
    simpa only [List.append_assoc] using ih (Nat.succ_le_succ hwr) (by omega)
  | case4 fuel s data r wr x hx s' hf ih =>
    obtain ⟨hlt, rfl⟩ := List.getElem?_eq_some_iff.mp hx
    rw [List.drop_eq_getElem_cons hlt, filterMapS_cons, hf]
    exact ih (Nat.le_succ_of_le hwr) (by omega)

/-- `keepLoopS_run` from any state of the loop that is right about the part of `xs` read so far -/
theorem keepLoopS_spec {σ : Type} (f : σ → Val → σ × Option Val) (s0 : σ) (xs : List Val) :
    ∀ (fuel : Nat) (s : σ) (data : List Val) (r wr : Nat),
      wr ≤ r → r ≤ xs.length → data.length = xs.length → data.drop r = xs.drop r →
      data.take wr = (filterMapS f s0 (xs.take r)).1 → s = (filterMapS f s0 (xs.take r)).2 → xs.length - r ≤ fuel →
      (keepLoopS f fuel s data r wr).1.take (keepLoopS f fuel s data r wr).2.1 = (filterMapS f s0 xs).1 ∧
      (keepLoopS f fuel s data r wr).2.2 = (filterMapS f s0 xs).2 ∧
      (keepLoopS f fuel s data r wr).1.length = xs.length := by
  intro fuel s data r wr hwr _ hlen hdrop htake hs hfuel
  obtain ⟨h1, h2, h3⟩ := keepLoopS_run f fuel s data r wr hwr (hlen ▸ hfuel)
  have hx := filterMapS_append f s0 (xs.take r) (xs.drop r)
  rw [List.take_append_drop, ← hs, ← hdrop, ← htake] at hx
  rw [hx]
  exact ⟨h1, h2, h3.trans hlen⟩

theorem keepAllListS_eq {σ : Type} (f : σ → Val → σ × Option Val) (s : σ) (xs : List Val) :
    keepAllListS f s xs = (filterMapS f s xs).1 :=
  (keepLoopS_run f xs.length s xs 0 0 (Nat.le_refl _) (Nat.sub_le _ _)).1

theorem filterMapS_unit (g : Val → Option Val) (xs : List Val) :
    (filterMapS (fun (_ : Unit) x => ((), g x)) () xs).1 = xs.filterMap g := by
  induction xs with
  | nil => rfl
  | cons x xs ih =>
    simp only [filterMapS, List.filterMap_cons]
    cases g x <;> simp [ih]

theorem keepLoop_eq_keepLoopS (f : Val → Option Val) (fuel : Nat) (data : List Val) (r wr : Nat) :
    keepLoop f fuel data r wr =
      ((keepLoopS (fun (_ : Unit) x => ((), f x)) fuel () data r wr).1,
       (keepLoopS (fun (_ : Unit) x => ((), f x)) fuel () data r wr).2.1) := by
  fun_induction keepLoop f fuel data r wr with
  | case1 => rfl
  | case2 _ _ _ _ hx => rw [keepLoopS, hx]
  | case3 _ _ _ _ _ hx _ hf ih => rw [keepLoopS, hx]; simp only [hf]; exact ih
  | case4 _ _ _ _ _ hx hf ih => rw [keepLoopS, hx]; simp only [hf]; exact ih

theorem keepLoop_spec (f : Val → Option Val) (xs : List Val) :
    ∀ (fuel : Nat) (data : List Val) (r wr : Nat),
      wr ≤ r → r ≤ xs.length → data.length = xs.length → data.drop r = xs.drop r →
      data.take wr = (xs.take r).filterMap f → xs.length - r ≤ fuel →
      (keepLoop f fuel data r wr).1.take (keepLoop f fuel data r wr).2 = xs.filterMap f ∧
      (keepLoop f fuel data r wr).1.length = xs.length := by
  intro fuel data r wr hwr hr hlen hdrop htake hfuel
  obtain ⟨q1, _, q3⟩ := keepLoopS_spec (fun (_ : Unit) x => ((), f x)) () xs fuel () data r wr hwr hr hlen hdrop
    (by rw [filterMapS_unit]; exact htake) rfl hfuel
  rw [keepLoop_eq_keepLoopS]
  exact ⟨by rw [← filterMapS_unit]; exact q1, q3⟩

theorem keepAllList_eq (f : Val → Option Val) (xs : List Val) : keepAllList f xs = xs.filterMap f := by
  rw [← filterMapS_unit, ← keepAllListS_eq, keepAllList, keepLoop_eq_keepLoopS, keepAllListS]

end Treepath
