import Treepath.Proofs.RefoldApi
/-
`Match.data = v` and `del m.data` as updates of the JSON tree: the handle of a genuine match
writes at that match's location (`m.pop()` is `del` returning the slot).
-/
namespace Treepath

theorem assign_refines (h h' : Heap) (root : Val) (j jv : J) (m p : MNode Val) (hd hd' : Handle) (v : Val)
    (hi : DocInv h root j) (hgen : Gen (hview h) root m) (hm : m.parent = some p)
    (hh : Handle.ofNode m = some hd)
    (hv : UnfJ h jv v) (hvn : (fpJ h jv v).Nodup) (hfresh : ∀ x ∈ fpJ h jv v, x ∉ fpJ h j root)
    (ha : hd.assign h v = .ok (h', hd')) :
    ∃ j', J.setAt j p.loc m.dataName jv = some j' ∧ DocInv h' root j' := by
  simp only [Handle.ofNode, hm, Option.map_some, Option.some.injEq] at hh
  subst hh
  obtain ⟨id, o, hpar, hwr, rfl, _⟩ := Handle.assign_ok ha
  have hw := gen_walk (hview h) root p (gen_parent (hview h) root m p hgen hm)
  obtain ⟨j', e2, e3, e4, _⟩ := hwr.on_tree hi.unf hi.sep hv hvn hfresh (hw.trans (congrArg some hpar))
  exact ⟨j', e2, ⟨e3, e4, hwr.wf hi.wf⟩⟩

theorem del_refines (h h' : Heap) (root : Val) (j : J) (m p : MNode Val) (hd hd' : Handle)
    (hi : DocInv h root j) (hgen : Gen (hview h) root m) (hm : m.parent = some p)
    (hh : Handle.ofNode m = some hd) (ha : hd.del h = .ok (h', hd')) :
    ∃ j', J.popAt j p.loc m.dataName = some j' ∧ DocInv h' root j' := by
  simp only [Handle.ofNode, hm, Option.map_some, Option.some.injEq] at hh
  subst hh
  obtain ⟨id, o, hpar, hwr, rfl, _⟩ := Handle.del_ok ha
  have hw := gen_walk (hview h) root p (gen_parent (hview h) root m p hgen hm)
  obtain ⟨j', e2, e3, e4, _⟩ := hwr.on_tree hi.unf hi.sep (hw.trans (congrArg some hpar))
  exact ⟨j', e2, ⟨e3, e4, hwr.wf hi.wf⟩⟩

end Treepath
