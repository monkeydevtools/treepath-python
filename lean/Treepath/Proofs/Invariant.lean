import Treepath.Proofs.Bisim
import Treepath.Model.Api
import Treepath.Proofs.StepLemmas
/-
How invariants of the stack machine are proved.  Lifting: a predicate on states kept by `astep`
is kept by `arun`, `anext`, `next` and `drain`.  `NodeAS N`: every node of the state — the focus,
the owners of the suspended iterations and the children they have still to produce — satisfies
`N`; kept by `astep` when `N` is closed under the ways the machine makes nodes.
-/
namespace Treepath
variable {α : Type}

section lift
variable (view : α → View α) (steps : Array (Step α)) (src : Src α)
  (Inv : AS α → Prop) (S : Sig α → Prop)

theorem arun_inv (hstep : ∀ as, Inv as → Inv (astep view steps src as).1) (k : Nat) (as : AS α) (h : Inv as) :
    Inv (arun view steps src k as).1 := by
  induction k generalizing as with
  | zero => exact h
  | succ k ih => exact ih _ (hstep as h)

variable (hstep : ∀ as, Inv as → Inv (astep view steps src as).1 ∧ S (astep view steps src as).2.2)
include hstep

/-- `__next__` passes on the signal of its last action, or gives up with `InfiniteLoopDetected` -/
theorem anext_inv (hloop : S (.raised .loopDetected)) (limit : Nat) (as : AS α) (h : Inv as) :
    Inv (anext view steps src limit as).1 ∧ S (anext view steps src limit as).2.2 := by
  -- `anext` branches like `next`: the six cases as at `next_cases`
  fun_induction anext view steps src limit as with
  | case1 => exact ⟨h, hloop⟩
  | case2 as t ev ha | case4 as t ev n ha => exact ⟨by simpa [ha] using (hstep as h).1, hloop⟩
  | case3 limit as t ev ha _ _ _ _ hn ih => simpa [hn] using ih (by simpa [ha] using (hstep as h).1)
  | case5 limit as t ev n ha => simpa [ha] using hstep as h
  | case6 => exact hstep _ h

theorem next_inv (hloop : S (.raised .loopDetected)) (limit : Nat) (st : St α) (as : AS α)
    (hR : R steps st as) (h : Inv as) :
    (∃ as', R steps (next view steps src limit st).1 as' ∧ Inv as') ∧ S (next view steps src limit st).2.2 := by
  obtain ⟨e, r⟩ := next_anext view steps src limit st as hR
  obtain ⟨h1, h2⟩ := anext_inv view steps src Inv S hstep hloop limit as h
  exact ⟨⟨_, r, h1⟩, by rw [e]; exact h2⟩

end lift

/-- what every `next()` keeps, a whole iteration keeps -/
theorem drain_inv (cx : Ctx α) (steps : Array (Step α)) (src : Src α) (Inv : AS α → Prop) (S : Sig α → Prop)
    (hstep : ∀ as, Inv as → Inv (astep cx.view steps src as).1 ∧ S (astep cx.view steps src as).2.2)
    (hloop : S (.raised .loopDetected)) (fuel : Nat) (st : St α) (as : AS α) (hR : R steps st as) (h : Inv as) :
    ∀ n ∈ (drain cx steps src fuel st).1, S (.result n) := by
  induction fuel generalizing st as with
  | zero => intro n hn; simp [drain] at hn
  | succ fuel ih =>
    obtain ⟨⟨as', r, h1⟩, h2⟩ := next_inv cx.view steps src Inv S hstep hloop cx.limit st as hR h
    simp only [drain, nextOut]
    rcases hn : next cx.view steps src cx.limit st with ⟨st', evs, sig⟩
    rw [hn] at r h2
    intro n
    cases sig with
    | result m =>
      simp only [List.mem_cons]
      rintro (rfl | hm)
      · exact h2
      · exact ih st' as' r h1 n hm
    | none => simp
    | stop => simp
    | raised e => simp
    | bug m => simp

section nodes
variable (view : α → View α) (steps : Array (Step α)) (src : Src α) (N : MNode α → Prop)

def NodeFrame (fr : Frame α) : Prop := N fr.owner ∧ ∀ p ∈ fr.items, N (.child fr.owner p.1 p.2)

def NodeStk (stk : List (Frame α)) : Prop := ∀ fr ∈ stk, NodeFrame N fr

def NodeAS : AS α → Prop
  | .report n _ _ stk | .attempt n _ stk => N n ∧ NodeStk N stk
  | .catch_ stk | .parked stk => NodeStk N stk
  | .init | .done => True

def NodeSig : Sig α → Prop
  | .result n => N n
  | _ => True

structure NodeClosed : Prop where
  root : N src.rootNode
  imag : ∀ n, N n → N (.imag n)
  single : ∀ s n n', N n → singleOf view s n = some n' → N n'
  items : ∀ s n its, N n → itemsOf s (view n.data) = .ok its → ∀ p ∈ its, N (.child n p.1 p.2)
  allItems : ∀ n its, N n → allItems (view n.data) = some its → ∀ p ∈ its, N (.child n p.1 p.2)

variable {N}

theorem resume_nodes {stk : List (Frame α)} (h : NodeStk N stk) : NodeAS N (resume stk) := by
  cases stk with
  | nil => trivial
  | cons fr stk => exact h

variable (hN : NodeClosed view src N)
include hN

theorem Iterated.nodes {n : MNode α} {vi : Nat} {stk : List (Frame α)} {its : List (Name × α)}
    {out : AS α × List (Ev α) × Sig α} (h : Iterated view n vi stk its out)
    (hfr : NodeFrame N ⟨n, vi, its⟩) (hs : NodeStk N stk) : NodeAS N out.1 ∧ NodeSig N out.2.2 := by
  -- the frame left behind once the first item is taken
  have hrest : ∀ it tl, its = it :: tl → NodeStk N (⟨n, vi, tl⟩ :: stk) := fun it tl e =>
    List.forall_mem_cons.2 ⟨⟨hfr.1, fun p hp => hfr.2 p (e ▸ List.mem_cons_of_mem _ hp)⟩, hs⟩
  cases h with
  | exhausted => exact ⟨resume_nodes hs, trivial⟩
  | item nm x tl => exact ⟨⟨hfr.2 _ List.mem_cons_self, hrest _ tl rfl⟩, trivial⟩
  | container nm x tl cits hci =>
    have hc : N (.child n nm x) := hfr.2 (nm, x) List.mem_cons_self
    exact ⟨⟨hN.imag _ hc, List.forall_mem_cons.2 ⟨⟨hc, hN.allItems (.child n nm x) cits hc hci⟩, hrest _ tl rfl⟩⟩, trivial⟩

theorem astep_nodes (as : AS α) (hg : NodeAS N as) :
    NodeAS N (astep view steps src as).1 ∧ NodeSig N (astep view steps src as).2.2 := by
  have hsp := astep_spec view steps src as
  generalize astep view steps src as = out at hsp ⊢
  cases hsp with
  | init => exact ⟨⟨hN.root, by intro x hx; simp at hx⟩, trivial⟩
  | done | emptyStack => exact ⟨trivial, trivial⟩
  | result => exact ⟨hg.2, hg.1⟩
  | toAttempt | outOfRange => exact ⟨hg, trivial⟩
  | catch_ => exact ⟨resume_nodes hg, trivial⟩
  | parked hit => exact hit.nodes view src hN (List.forall_mem_cons.1 hg).1 (List.forall_mem_cons.1 hg).2
  | @attempt n vi stk out h =>
    obtain ⟨hn, hs⟩ := hg
    cases h with
    | bug | raised => exact ⟨⟨hn, hs⟩, trivial⟩
    | miss => exact ⟨resume_nodes hs, trivial⟩
    | kept => exact ⟨⟨hN.imag n hn, hs⟩, trivial⟩
    | single s n' _ h => exact ⟨⟨hN.single s n n' hn h, hs⟩, trivial⟩
    | recur its _ h => exact ⟨⟨hN.imag n hn, List.forall_mem_cons.2 ⟨⟨hn, hN.allItems n its hn h⟩, hs⟩⟩, trivial⟩
    | iter s its _ _ h hit => exact hit.nodes view src hN ⟨hn, hN.items s n its hn h⟩ hs

end nodes

end Treepath
