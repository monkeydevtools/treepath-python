import Treepath.Model.Machine
import Treepath.Proofs.StepLemmas
/-
The pointer-free *stack machine*: the traverser's control state as a focus plus a stack of
suspended iterations.  `Proofs/Bisim.lean` shows the heap machine (`Machine.lean`) runs in
lock step with it; `Proofs/Sim.lean` shows it emits the specification's event stream.
-/
namespace Treepath
variable {α : Type}

/-- a suspended iteration: the match the iterator is parked on, that match's `vertex_index`
(the iterating step is `steps[vidx]`), and the items not produced yet -/
structure Frame (α : Type) where
  owner : MNode α
  vidx : Nat
  items : List (Name × α)

inductive AS (α : Type) where
  | init
  | report (n : MNode α) (vertex vidx : Nat) (stk : List (Frame α))
  | catch_ (stk : List (Frame α))
  | attempt (n : MNode α) (vidx : Nat) (stk : List (Frame α))   -- an un-parked focus at `match_action`
  | parked (stk : List (Frame α))                                -- focus = owner of the top frame
  | done

/-- where control goes after a result or a failed attempt: the innermost suspended iteration -/
def resume : List (Frame α) → AS α
  | [] => .done
  | stk => .parked stk

/-- does the step park an iterator -/
def Step.iterates : Step α → Bool
  | .key _ | .idx _ | .parent | .filter _ => false
  | _ => true

section
variable (view : α → View α) (steps : Array (Step α)) (src : Src α)

/-- take the next item of a (non-recursive) multi-valued step -/
def aIter (n : MNode α) (vidx : Nat) (its : List (Name × α)) (stk : List (Frame α)) : AS α × List (Ev α) × Sig α :=
  match its with
  | [] => (resume stk, [.attempt n (vidx+1) none none], .none)
  | (nm, x) :: tl =>
    (.report (.child n nm x) (vidx+1) (vidx+1) (⟨n, vidx, tl⟩ :: stk),
     [.attempt n (vidx+1) (some (.child n nm x)) none], .none)

/-- take the next child of a recursive step -/
def aRecIter (n : MNode α) (vidx : Nat) (its : List (Name × α)) (stk : List (Frame α)) : AS α × List (Ev α) × Sig α :=
  match its with
  | [] => (resume stk, [.attempt n (vidx+1) none none], .none)
  | (nm, x) :: tl =>
    match allItems (view x) with
    | none =>
      (.report (.child n nm x) (vidx+1) vidx (⟨n, vidx, tl⟩ :: stk),
       [.attempt n (vidx+1) (some (.child n nm x)) none], .none)
    | some cits =>
      (.report (.imag (.child n nm x)) (vidx+1) (vidx+1) (⟨.child n nm x, vidx, cits⟩ :: ⟨n, vidx, tl⟩ :: stk),
       [.attempt n (vidx+1) (some (.imag (.child n nm x))) none], .none)

/-- `match_action` on an un-parked focus -/
def aAttempt (n : MNode α) (vidx : Nat) (stk : List (Frame α)) : AS α × List (Ev α) × Sig α :=
  match steps[vidx]? with
  | none => (.attempt n vidx stk, [], .bug "vertex index out of range")
  | some s =>
    match s with
    | .filter f =>
      match (f n).res with
      | .val j =>
        if j.truthy then
          (.report (.imag n) (vidx+1) (vidx+1) stk,
           (.predCall n :: (f n).evs) ++ [.attempt n (vidx+1) (some (.imag n)) none], .none)
        else (resume stk, (.predCall n :: (f n).evs) ++ [.attempt n (vidx+1) none none], .none)
      | .raise e =>
        (.attempt n vidx stk, .predCall n :: (f n).evs ++ [.raised (.traversing e)], .raised (.traversing e))
    | .recur =>
      match allItems (view n.data) with
      | none => (resume stk, [.attempt n (vidx+1) none none], .none)
      | some its =>
        (.report (.imag n) (vidx+1) (vidx+1) (⟨n, vidx, its⟩ :: stk),
         [.attempt n (vidx+1) (some (.imag n)) none], .none)
    | .key _ | .idx _ | .parent =>
      match singleOf view s n with
      | none => (resume stk, [.attempt n (vidx+1) none none], .none)
      | some n' => (.report n' (vidx+1) (vidx+1) stk, [.attempt n (vidx+1) (some n') none], .none)
    | _ =>
      match itemsOf s (view n.data) with
      | .wrongKind => (resume stk, [.attempt n (vidx+1) none none], .none)
      | .valueError => (.attempt n vidx stk, [.raised (.user "ValueError")], .raised (.user "ValueError"))
      | .ok its => aIter n vidx its stk

def astep : AS α → AS α × List (Ev α) × Sig α
  | .init => (.report src.rootNode 0 0 [], [], .none)
  | .done => (.done, [.stop], .stop)
  | .report n vertex vidx stk =>
    if vertex = steps.size then (.catch_ stk, [.result n], .result n)   -- the focus is dropped: only its resume pointer matters
    else (.attempt n vidx stk, [], .none)
  | .catch_ stk => (resume stk, [], .none)
  | .attempt n vidx stk => aAttempt view steps n vidx stk
  | .parked [] => (.done, [], .bug "parked on an empty stack")
  | .parked (fr :: stk) =>
    match steps[fr.vidx]? with
    | some .recur => aRecIter view fr.owner fr.vidx fr.items stk
    | some _ => aIter fr.owner fr.vidx fr.items stk
    | none => (.parked (fr :: stk), [], .bug "vertex index out of range")

def arun : Nat → AS α → AS α × List (Ev α)
  | 0, s => (s, [])
  | k+1, s =>
    let r := astep view steps src s
    let r' := arun k r.1
    (r'.1, r.2.1 ++ r'.2)

theorem arun_add (a b : Nat) (s : AS α) :
    arun view steps src (a + b) s =
      ((arun view steps src b (arun view steps src a s).1).1,
       (arun view steps src a s).2 ++ (arun view steps src b (arun view steps src a s).1).2) := by
  induction a generalizing s with
  | zero => rw [Nat.zero_add]; rfl
  | succ a ih => rw [Nat.add_right_comm]; simp only [arun, ih, List.append_assoc]

theorem aAttempt_multi (s : Step α) (hm : s.cls = .multi) (n : MNode α) (vi : Nat) (stk : List (Frame α))
    (hs : steps[vi]? = some s) :
    aAttempt view steps n vi stk =
      match itemsOf s (view n.data) with
      | .wrongKind => (resume stk, [.attempt n (vi+1) none none], .none)
      | .valueError => (.attempt n vi stk, [.raised (.user "ValueError")], .raised (.user "ValueError"))
      | .ok its => aIter n vi its stk := by
  simp only [aAttempt, hs]
  cases s with
  | slice | tuple | keyWc | idxWc | gwc => rfl
  | _ => cases hm

theorem aAttempt_single (s : Step α) (hc : s.cls = .single) (n : MNode α) (vi : Nat) (stk : List (Frame α))
    (hs : steps[vi]? = some s) :
    aAttempt view steps n vi stk =
      match singleOf view s n with
      | none => (resume stk, [.attempt n (vi+1) none none], .none)
      | some n' => (.report n' (vi+1) (vi+1) stk, [.attempt n (vi+1) (some n') none], .none) := by
  simp only [aAttempt, hs]
  cases s with
  | key | idx | parent => rfl
  | _ => cases hc

theorem astep_report_result {vertex : Nat} (h : vertex = steps.size) (n : MNode α) (vidx : Nat) (stk : List (Frame α)) :
    astep view steps src (.report n vertex vidx stk) = (.catch_ stk, [.result n], .result n) := by
  simp [astep, h]

theorem astep_report_attempt {vertex : Nat} (h : vertex ≠ steps.size) (n : MNode α) (vidx : Nat) (stk : List (Frame α)) :
    astep view steps src (.report n vertex vidx stk) = (.attempt n vidx stk, [], .none) := by
  simp [astep, h]

theorem astep_parked_multi (s : Step α) (hm : s.cls = .multi) (fr : Frame α) (stk : List (Frame α))
    (hs : steps[fr.vidx]? = some s) :
    astep view steps src (.parked (fr :: stk)) = aIter fr.owner fr.vidx fr.items stk := by
  simp only [astep, hs]
  cases s with
  | slice | tuple | keyWc | idxWc | gwc => rfl
  | _ => cases hm

theorem astep_parked_recur (fr : Frame α) (stk : List (Frame α)) (hs : steps[fr.vidx]? = some .recur) :
    astep view steps src (.parked (fr :: stk)) = aRecIter view fr.owner fr.vidx fr.items stk := by
  simp only [astep, hs]

theorem arun_one (s : AS α) : arun view steps src 1 s = ((astep view steps src s).1, (astep view steps src s).2.1) := by
  simp [arun]

/-- taking the next item of an iteration of `n` at step `vi`, suspended above `stk`: exhausted; the
child itself is reported (with `vertex_index` `vi+1`, or `vi` for a scalar child of `..`); or, for
a container child of `..`, its twin is reported and its own iteration pushed -/
inductive Iterated (n : MNode α) (vi : Nat) (stk : List (Frame α)) :
    List (Name × α) → AS α × List (Ev α) × Sig α → Prop
  | exhausted : Iterated n vi stk [] (resume stk, [.attempt n (vi+1) none none], .none)
  | item (nm : Name) (x : α) (tl : List (Name × α)) (vidx' : Nat) : vidx' ≤ vi + 1 →
      Iterated n vi stk ((nm, x) :: tl)
        (.report (.child n nm x) (vi+1) vidx' (⟨n, vi, tl⟩ :: stk), [.attempt n (vi+1) (some (.child n nm x)) none], .none)
  | container (nm : Name) (x : α) (tl cits : List (Name × α)) : allItems (view x) = some cits →
      Iterated n vi stk ((nm, x) :: tl)
        (.report (.imag (.child n nm x)) (vi+1) (vi+1) (⟨.child n nm x, vi, cits⟩ :: ⟨n, vi, tl⟩ :: stk),
         [.attempt n (vi+1) (some (.imag (.child n nm x))) none], .none)

theorem aIter_spec (n : MNode α) (vi : Nat) (its : List (Name × α)) (stk : List (Frame α)) :
    Iterated view n vi stk its (aIter n vi its stk) := by
  cases its with
  | nil => exact .exhausted
  | cons it tl => exact .item it.1 it.2 tl _ (Nat.le_refl _)

theorem aRecIter_spec (n : MNode α) (vi : Nat) (its : List (Name × α)) (stk : List (Frame α)) :
    Iterated view n vi stk its (aRecIter view n vi its stk) := by
  cases its with
  | nil => exact .exhausted
  | cons it tl =>
    obtain ⟨nm, x⟩ := it
    simp only [aRecIter]
    split
    · exact .item nm x tl _ (Nat.le_succ _)
    · exact .container nm x tl _ ‹_›

/-- the ways `match_action` on an un-parked focus `n` at step `vi` can end -/
inductive Attempted (n : MNode α) (vi : Nat) (stk : List (Frame α)) : AS α × List (Ev α) × Sig α → Prop
  | bug (m : String) : steps[vi]? = none → Attempted n vi stk (.attempt n vi stk, [], .bug m)
  | raised (s : Step α) (evs : List (Ev α)) (e : Exc) : steps[vi]? = some s → StepRaises view s n e evs →
      Attempted n vi stk (.attempt n vi stk, evs, .raised e)
  | miss (s : Step α) (pre : List (Ev α)) : steps[vi]? = some s → PredEvs s n pre →
      Attempted n vi stk (resume stk, pre ++ [.attempt n (vi+1) none none], .none)
  | kept (s : Step α) (pre : List (Ev α)) : steps[vi]? = some s → PredEvs s n pre →
      Attempted n vi stk (.report (.imag n) (vi+1) (vi+1) stk, pre ++ [.attempt n (vi+1) (some (.imag n)) none], .none)
  | single (s : Step α) (n' : MNode α) : steps[vi]? = some s → singleOf view s n = some n' →
      Attempted n vi stk (.report n' (vi+1) (vi+1) stk, [.attempt n (vi+1) (some n') none], .none)
  | recur (its : List (Name × α)) : steps[vi]? = some .recur → allItems (view n.data) = some its →
      Attempted n vi stk
        (.report (.imag n) (vi+1) (vi+1) (⟨n, vi, its⟩ :: stk), [.attempt n (vi+1) (some (.imag n)) none], .none)
  | iter (s : Step α) (its : List (Name × α)) (out : AS α × List (Ev α) × Sig α) : steps[vi]? = some s →
      itemsOf s (view n.data) = .ok its → Iterated view n vi stk its out → Attempted n vi stk out

theorem aAttempt_spec (n : MNode α) (vi : Nat) (stk : List (Frame α)) :
    Attempted view steps n vi stk (aAttempt view steps n vi stk) := by
  -- the bullets follow `aAttempt`: no step at `vi`; then by the step: a filter (kept / refused / raising), `recur`,
  -- `key`, `idx`, `parent` (each: nothing there / a node), a multi-valued step (wrong kind / `ValueError` / items)
  unfold aAttempt
  split
  · exact .bug _ ‹_›
  · rename_i s hs
    split
    · rename_i f
      split
      · split
        · exact .kept _ _ hs (.inr ⟨f, rfl, rfl⟩)
        · exact .miss _ _ hs (.inr ⟨f, rfl, rfl⟩)
      · exact .raised _ _ _ hs (.pred f _ rfl ‹_›)
    · split
      · exact .miss _ [] hs (.inl rfl)
      · exact .recur _ hs ‹_›
    · split
      · exact .miss _ [] hs (.inl rfl)
      · exact .single _ _ hs ‹_›
    · split
      · exact .miss _ [] hs (.inl rfl)
      · exact .single _ _ hs ‹_›
    · split
      · exact .miss _ [] hs (.inl rfl)
      · exact .single _ _ hs ‹_›
    · split
      · exact .miss _ [] hs (.inl rfl)
      · exact .raised _ _ _ hs (.zeroStep ‹_›)
      · exact .iter _ _ _ hs ‹_› (aIter_spec view ..)

/-- one action of the stack machine, by the state it starts from: the outcomes of an attempt are
`Attempted`, those of taking the next item of the top frame `Iterated` -/
inductive AStepped : AS α → AS α × List (Ev α) × Sig α → Prop
  | init : AStepped .init (.report src.rootNode 0 0 [], [], .none)
  | done : AStepped .done (.done, [.stop], .stop)
  | result {n vertex vidx stk} : vertex = steps.size →
      AStepped (.report n vertex vidx stk) (.catch_ stk, [.result n], .result n)
  | toAttempt {n vertex vidx stk} : vertex ≠ steps.size →
      AStepped (.report n vertex vidx stk) (.attempt n vidx stk, [], .none)
  | catch_ {stk} : AStepped (.catch_ stk) (resume stk, [], .none)
  | attempt {n vi stk out} : Attempted view steps n vi stk out → AStepped (.attempt n vi stk) out
  | parked {fr stk out} : Iterated view fr.owner fr.vidx stk fr.items out → AStepped (.parked (fr :: stk)) out
  | emptyStack {m} : AStepped (.parked []) (.done, [], .bug m)
  | outOfRange {fr stk m} : steps[fr.vidx]? = none → AStepped (.parked (fr :: stk)) (.parked (fr :: stk), [], .bug m)

theorem astep_spec (as : AS α) : AStepped view steps src as (astep view steps src as) := by
  cases as with
  | init => exact .init
  | done => exact .done
  | report n vertex vidx stk =>
    simp only [astep]
    split
    · exact .result ‹_›
    · exact .toAttempt ‹_›
  | catch_ stk => exact .catch_
  | attempt n vi stk => exact .attempt (aAttempt_spec view steps n vi stk)
  | parked stk =>
    cases stk with
    | nil => exact .emptyStack
    | cons fr stk =>
      simp only [astep]
      split
      · exact .parked (aRecIter_spec view _ _ _ stk)
      · exact .parked (aIter_spec view _ _ _ stk)
      · exact .outOfRange ‹_›

/-- `__next__` on the stack machine (same budget discipline as `next`) -/
def anext : Nat → AS α → AS α × List (Ev α) × Sig α
  | 0, as => (as, [.raised .loopDetected], .raised .loopDetected)
  | limit+1, as =>
    match astep view steps src as with
    | (as', evs, .none) =>
      if limit = 0 then (as', evs ++ [.raised .loopDetected], .raised .loopDetected)
      else
        match anext limit as' with
        | (as'', evs', sig') => (as'', evs ++ evs', sig')
    | (as', evs, .result n) =>
      if limit = 0 then (as', evs ++ [.raised .loopDetected], .raised .loopDetected)
      else (as', evs, .result n)
    | r => r

end
end Treepath
