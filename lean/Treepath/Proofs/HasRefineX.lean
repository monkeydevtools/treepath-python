import Treepath.Proofs.HasRefine
import Treepath.Proofs.DriveX
/- the machine-level has-predicate computes the specification-level one — also when the nested
path's own predicates raise: the exception the nested search raises is exactly the one the
definition meets while selecting, after exactly the values tried so far -/
namespace Treepath

section
variable (steps : Array (Step J))

/-- some `next()` of the nested search, after a run of successful calls, ended in what the
has-loop reports as an infrastructure error: the loop budget, no signal, a defensive branch -/
def NextFailed (cx : Ctx J) (c : MNode J) : Prop :=
  ∃ rs E st st' evs sig, Yields J.view steps (.nested c) cx.limit freshIter rs E st ∧
    next J.view steps (.nested c) cx.limit st = (st', evs, sig) ∧
    (sig = .raised .loopDetected ∨ sig = .none ∨ ∃ m, sig = .bug m)

/-- the loop of a has-predicate over the nested traverser, resumed after `rs` have been
yielded, computes the first-success search over the rest of the definition's answer; an
infrastructure outcome has a reason: the loop's own fuel, or a `next()` that failed -/
theorem hasLoop_refines_x (cx : Ctx J) (hv : cx.view = J.view) (hj : cx.toJ = id) (c : MNode J)
    (hp : PredsClean steps) (test : J → List (Ev J) × Except Exc J) :
    ∀ (fuel : Nat) (st : St J) (rs : List (MNode J)) (E : List (Ev J)) (rest : List (MNode J)) (ex : Option Exc),
      Yields J.view steps (.nested c) cx.limit freshIter rs E st →
      evalE steps.toList (.imag c) = (rs ++ rest, ex) →
      (hasLoop cx steps c test fuel st).2 = (firstSuccess test rest ex).2 ∨
        IsInfra (hasLoop cx steps c test fuel st).2 ∧ (rest.length < fuel → NextFailed steps cx c) := by
  intro fuel
  induction fuel with
  | zero => intro st rs E rest ex _ _; exact .inr ⟨.inr (.inl rfl), fun h => by omega⟩
  | succ fuel ih =>
    intro st rs E rest ex hy hev
    unfold hasLoop
    rw [hv]
    rcases hn : next J.view steps (.nested c) cx.limit st with ⟨st', evs, sig⟩
    have hfail : ∀ r, (sig = .raised .loopDetected ∨ sig = .none ∨ ∃ m, sig = .bug m) → IsInfra r →
        IsInfra r ∧ (rest.length < fuel + 1 → NextFailed steps cx c) :=
      fun r hs hr => ⟨hr, fun _ => ⟨rs, E, st, st', evs, sig, hy, hn, hs⟩⟩
    cases sig with
    | result n =>
      obtain ⟨rest', rfl⟩ := yields_next_result hp hy hn hev
      simp only [hj, id]
      rcases ht : test n.data with ⟨tevs, r⟩
      cases r with
      | ok v =>
        by_cases htr : v.truthy = true
        · simp only [htr, if_true]
          exact .inl (by simp [firstSuccess, ht, htr])
        · simp only [htr]
          simpa [firstSuccess, ht, htr] using
            ih st' (rs ++ [n]) _ rest' ex (Yields.snoc steps (.nested c) hy hn) (by simp [hev])
      | error e => exact .inl (by simp [firstSuccess, ht])
    | stop =>
      obtain ⟨rfl, rfl⟩ := yields_next_stop hp hy hn hev
      exact .inl (by simp [firstSuccess])
    | raised e =>
      by_cases hl : e = .loopDetected
      · subst hl; exact .inr (hfail _ (.inl rfl) (.inl rfl))
      · obtain ⟨rfl, rfl⟩ := yields_next_raised hp hy hn hl hev
        exact .inl (by simp [firstSuccess])
    | none => exact .inr (hfail _ (.inr (.inl rfl)) (.inr (.inr (.inl rfl))))
    | bug m => exact .inr (hfail _ (.inr (.inr ⟨m, rfl⟩)) (.inr (.inr (.inr ⟨m, rfl⟩))))

end

/-- `has` over the nested machine returns what the first-success search over the definition's
answer returns, or an infrastructure outcome — and that only if the loop's fuel does not
exceed the number of selected values or a `next()` of the nested search failed -/
theorem has_refines_why (cx : Ctx J) (hv : cx.view = J.view) (hj : cx.toJ = id) (ss : List (Step J))
    (hp : PredsClean ss.toArray) (op : Option Fn) (fns : List Fn) (c : MNode J) :
    (has cx ss op fns c).res = (hasS ss op fns c).res ∨
      IsInfra (has cx ss op fns c).res ∧ ((eval ss (.imag c)).length < cx.fuel → NextFailed ss.toArray cx c) := by
  rcases hE : evalE ss (.imag c) with ⟨ns, e⟩
  have key := hasLoop_refines_x ss.toArray cx hv hj c hp (hasTest op fns)
    cx.fuel freshIter [] [] ns e (.nil _) (by simpa using hE)
  simp only [has, hasS, hE, eval]
  exact key

/-- **the traverser's `has` is the specification's `has`, whatever the nested path's own
predicates do**: unless a budget was exhausted, `has(path [<op> v] [, f1, …])` over the nested
machine returns — value or exception — what the first-success search over the definition's
answer returns, the exception met while selecting included -/
theorem has_refines_x (cx : Ctx J) (hv : cx.view = J.view) (hj : cx.toJ = id) (ss : List (Step J))
    (hp : PredsClean ss.toArray) (op : Option Fn) (fns : List Fn) (c : MNode J) :
    IsInfra (has cx ss op fns c).res ∨ (has cx ss op fns c).res = (hasS ss op fns c).res :=
  (has_refines_why cx hv hj ss hp op fns c).symm.imp_left And.left

/-- **the traverser's `has` is the specification's `has`**: unless a budget was exhausted, the
predicate built by `has(path [<op> v] [, f1, …])` over the nested *machine* returns what the
existential first-success search over `evalE` returns -/
theorem has_refines (cx : Ctx J) (hv : cx.view = J.view) (hj : cx.toJ = id) (ss : List (Step J))
    (hq : Quiet ss) (hp : PredsClean ss.toArray) (op : Option Fn) (fns : List Fn) (c : MNode J) :
    IsInfra (has cx ss op fns c).res ∨ (has cx ss op fns c).res = (hasS ss op fns c).res :=
  has_refines_x cx hv hj ss hp op fns c

end Treepath
