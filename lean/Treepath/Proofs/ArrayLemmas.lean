/-
Reading an array after `push` or `modify`, in the `getElem?` form the heap machine, the object
store and the vertex store are all stated in.
-/
namespace Treepath

theorem push_old {β} (h : Array β) (x : β) (i : Nat) (hi : i < h.size) : (h.push x)[i]? = h[i]? := by
  rw [Array.getElem?_push, if_neg (Nat.ne_of_lt hi)]

theorem modify_self {β} {h : Array β} {i : Nat} {f : β → β} {t : β} (hi : h[i]? = some t) :
    (h.modify i f)[i]? = some (f t) := by
  simp [Array.getElem?_modify, hi]

theorem modify_other {β} {h : Array β} {i j : Nat} {f : β → β} (hij : i ≠ j) : (h.modify i f)[j]? = h[j]? := by
  simp [Array.getElem?_modify, hij]

theorem lt_size_of_get {β} {h : Array β} {i : Nat} {t : β} (hi : h[i]? = some t) : i < h.size :=
  (Array.getElem?_eq_some_iff.mp hi).1

theorem mem_toList_of_getElem? {β} {a : Array β} {i : Nat} {x : β} (h : a[i]? = some x) : x ∈ a.toList :=
  Array.mem_toList_iff.mpr (Array.mem_of_getElem? h)

theorem getElem?_push_some {β} {xs : Array β} {x y : β} {v : Nat} (h : (xs.push x)[v]? = some y) :
    (v < xs.size ∧ xs[v]? = some y) ∨ (v = xs.size ∧ y = x) := by
  rw [Array.getElem?_push] at h
  split at h
  · exact .inr ⟨‹_›, (Option.some.inj h).symm⟩
  · exact .inl ⟨lt_size_of_get h, h⟩

theorem getElem?_modify_some {β} {xs : Array β} {f : β → β} {v u : Nat} {y : β} (h : (xs.modify v f)[u]? = some y) :
    (v ≠ u ∧ xs[u]? = some y) ∨ (v = u ∧ ∃ x, xs[v]? = some x ∧ y = f x) := by
  rw [Array.getElem?_modify] at h
  split at h
  · rename_i hvu
    obtain ⟨x, hx, rfl⟩ := Option.map_eq_some_iff.mp h
    exact .inr ⟨hvu, x, hvu ▸ hx, rfl⟩
  · exact .inl ⟨‹_›, h⟩

end Treepath
