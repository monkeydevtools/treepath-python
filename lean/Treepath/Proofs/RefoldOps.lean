import Treepath.Proofs.Refold
import Treepath.Proofs.MutateLemmas
/-
The base cases of `refold` for the writers' primitive stores (`d[k] = v`, `l[i] = v`,
`l.append(v)`, `del d[k]`, `del l[i]`) and the resulting tree-level theorems for
`vertex.set` / `vertex.pop`.
-/
namespace Treepath

/-- the shape shared by the base cases: object `id` is a dict with entries `es`, written to
`es'`.  `hstep` is the caller's part, said in the store after the write: `F` sends any tree the
old cells unfold to to one the new cells unfold to, through objects of the old cells or of `E`. -/
theorem base_dict {h : Heap} {id : Nat} {es : List (String × Val)} (es' : List (String × Val)) (E : List Nat) (F : J → Option J)
    (ho : h[id]? = some (.dict es))
    (hstep : ∀ kvs, es.map Prod.fst = kvs.map Prod.fst → UnfListJ (hput h id (.dict es')) (kvs.map Prod.snd) (es.map Prod.snd) →
      ∃ kvs', F (.obj kvs) = some (.obj kvs') ∧ es'.map Prod.fst = kvs'.map Prod.fst ∧
        UnfListJ (hput h id (.dict es')) (kvs'.map Prod.snd) (es'.map Prod.snd) ∧
        (∀ x ∈ fpList (hput h id (.dict es')) (kvs'.map Prod.snd) (es'.map Prod.snd),
            x ∈ fpList (hput h id (.dict es')) (kvs.map Prod.snd) (es.map Prod.snd) ∨ x ∈ E) ∧
        ((fpList (hput h id (.dict es')) (kvs.map Prod.snd) (es.map Prod.snd)).Nodup →
          (∀ x ∈ E, x ∉ fpList (hput h id (.dict es')) (kvs.map Prod.snd) (es.map Prod.snd)) →
          (fpList (hput h id (.dict es')) (kvs'.map Prod.snd) (es'.map Prod.snd)).Nodup)) :
    ∀ jsub, UnfJ h jsub (.ref id) → (fpJ h jsub (.ref id)).Nodup → (∀ x ∈ E, x ∉ fpJ h jsub (.ref id)) →
      ∃ jsub', F jsub = some jsub' ∧ UnfJ (hput h id (.dict es')) jsub' (.ref id) ∧
        (fpJ (hput h id (.dict es')) jsub' (.ref id)).Nodup ∧
        ∀ x ∈ fpJ (hput h id (.dict es')) jsub' (.ref id), x ∈ fpJ h jsub (.ref id) ∨ x ∈ E := by
  intro jsub hu hnd hE
  rcases unf_ref_cases hu with ⟨kvs, es0, rfl, ho0, hkv⟩ | ⟨_, _, _, ho0, _⟩
  · obtain rfl : es = es0 := by rw [ho] at ho0; cases ho0; rfl
    obtain ⟨hkeys, hul⟩ := unfKvs_iff.mp hkv
    rw [fpJ_obj ho, fpKvs_eq] at hnd hE
    obtain ⟨hid, hndl⟩ := List.nodup_cons.mp hnd
    obtain ⟨q1, q2⟩ := unfList_frame h id (.dict es') _ _ hul hid
    obtain ⟨kvs', f1, f2, f3, f4, f5⟩ := hstep kvs hkeys q1
    have hself : (hput h id (.dict es'))[id]? = some (.dict es') := hput_self (lt_size_of_get ho)
    rw [q2] at f4 f5
    refine ⟨.obj kvs', f1, ⟨es', hself, unfKvs_iff.mpr ⟨f2, f3⟩⟩, ?_⟩
    rw [fpJ_obj hself, fpJ_obj ho, fpKvs_eq, fpKvs_eq]
    exact nodup_splice_tail (pre := [id]) hnd hE (f5 hndl fun x hx hm => hE x hx (List.mem_cons_of_mem _ hm)) f4
  · rw [ho] at ho0; cases ho0

/-- the same for a list object with cells `xs`, written to `xs'` -/
theorem base_list {h : Heap} {id : Nat} {xs : List Val} (xs' : List Val) (E : List Nat) (F : J → Option J)
    (ho : h[id]? = some (.list xs))
    (hstep : ∀ ys, ys.length = xs.length → UnfListJ (hput h id (.list xs')) ys xs →
      ∃ ys', F (.arr ys) = some (.arr ys') ∧ UnfListJ (hput h id (.list xs')) ys' xs' ∧
        (∀ x ∈ fpList (hput h id (.list xs')) ys' xs', x ∈ fpList (hput h id (.list xs')) ys xs ∨ x ∈ E) ∧
        ((fpList (hput h id (.list xs')) ys xs).Nodup → (∀ x ∈ E, x ∉ fpList (hput h id (.list xs')) ys xs) →
          (fpList (hput h id (.list xs')) ys' xs').Nodup)) :
    ∀ jsub, UnfJ h jsub (.ref id) → (fpJ h jsub (.ref id)).Nodup → (∀ x ∈ E, x ∉ fpJ h jsub (.ref id)) →
      ∃ jsub', F jsub = some jsub' ∧ UnfJ (hput h id (.list xs')) jsub' (.ref id) ∧
        (fpJ (hput h id (.list xs')) jsub' (.ref id)).Nodup ∧
        ∀ x ∈ fpJ (hput h id (.list xs')) jsub' (.ref id), x ∈ fpJ h jsub (.ref id) ∨ x ∈ E := by
  intro jsub hu hnd hE
  rcases unf_ref_cases hu with ⟨_, _, _, ho0, _⟩ | ⟨ys, xs0, rfl, ho0, hul⟩
  · rw [ho] at ho0; cases ho0
  · obtain rfl : xs = xs0 := by rw [ho] at ho0; cases ho0; rfl
    rw [fpJ_arr ho] at hnd hE
    obtain ⟨hid, hndl⟩ := List.nodup_cons.mp hnd
    obtain ⟨q1, q2⟩ := unfList_frame h id (.list xs') _ _ hul hid
    obtain ⟨ys', f1, f3, f4, f5⟩ := hstep ys (unfList_length hul) q1
    have hself : (hput h id (.list xs'))[id]? = some (.list xs') := hput_self (lt_size_of_get ho)
    rw [q2] at f4 f5
    refine ⟨.arr ys', f1, ⟨xs', hself, f3⟩, ?_⟩
    rw [fpJ_arr hself, fpJ_arr ho]
    exact nodup_splice_tail (pre := [id]) hnd hE (f5 hndl fun x hx hm => hE x hx (List.mem_cons_of_mem _ hm)) f4

/-- the cells of the written object `id` with a value assigned at a position: the value is seen
from the store before the write, where it unfolds through objects other than `id` -/
theorem cells_set {h : Heap} {id : Nat} {o : Obj} {jv : J} {v : Val} (hv : UnfJ h jv v) (hvn : (fpJ h jv v).Nodup)
    (hidv : id ∉ fpJ h jv v) {ys : List J} {xs : List Val} (p : Nat) (q1 : UnfListJ (hput h id o) ys xs) :
    UnfListJ (hput h id o) (ys.set p jv) (xs.set p v) ∧
    (∀ x ∈ fpList (hput h id o) (ys.set p jv) (xs.set p v),
      x ∈ fpList (hput h id o) ys xs ∨ x ∈ fpJ h jv v) ∧
    ((fpList (hput h id o) ys xs).Nodup → (∀ x ∈ fpJ h jv v, x ∉ fpList (hput h id o) ys xs) →
      (fpList (hput h id o) (ys.set p jv) (xs.set p v)).Nodup) := by
  obtain ⟨r1, r2⟩ := unf_frame h id o jv v hv hidv
  obtain ⟨u1, u2, u3⟩ := unfList_set r1 p q1
  rw [r2] at u2 u3
  exact ⟨u1, u2, fun n1 n2 => u3 n1 hvn n2⟩

theorem cells_append {h : Heap} {id : Nat} {o : Obj} {jv : J} {v : Val} (hv : UnfJ h jv v) (hvn : (fpJ h jv v).Nodup)
    (hidv : id ∉ fpJ h jv v) {ys : List J} {xs : List Val} (q1 : UnfListJ (hput h id o) ys xs) :
    UnfListJ (hput h id o) (ys ++ [jv]) (xs ++ [v]) ∧
    (∀ x ∈ fpList (hput h id o) (ys ++ [jv]) (xs ++ [v]),
      x ∈ fpList (hput h id o) ys xs ∨ x ∈ fpJ h jv v) ∧
    ((fpList (hput h id o) ys xs).Nodup → (∀ x ∈ fpJ h jv v, x ∉ fpList (hput h id o) ys xs) →
      (fpList (hput h id o) (ys ++ [jv]) (xs ++ [v])).Nodup) := by
  obtain ⟨r1, r2⟩ := unf_frame h id o jv v hv hidv
  obtain ⟨u1, u2⟩ := unfList_append r1 q1
  rw [r2] at u2
  rw [u2]
  exact ⟨u1, fun x hx => List.mem_append.mp hx,
    fun n1 n2 => List.nodup_append.mpr ⟨n1, hvn, fun a ha b hb e => n2 b hb (e ▸ ha)⟩⟩

/-- the write of a `vertex.set` on the tree, for a container object `id` that sits at `loc` of the document -/
theorem SetWrite.on_tree {h : Heap} {v : Val} {id : Nat} {nm : Name} {o : Obj} {root : Val} {j jv : J} {loc : List Name}
    (hw : SetWrite h v id nm o) (hu : UnfJ h j root) (hsep : (fpJ h j root).Nodup)
    (hv : UnfJ h jv v) (hvn : (fpJ h jv v).Nodup) (hfresh : ∀ x ∈ fpJ h jv v, x ∉ fpJ h j root)
    (hloc : walk (hview h) root loc = some (.ref id)) :
    ∃ j', J.setAt j loc nm jv = some j' ∧ UnfJ (hput h id o) j' root ∧
      (fpJ (hput h id o) j' root).Nodup ∧ ∀ x ∈ fpJ (hput h id o) j' root, x ∈ fpJ h j root ∨ x ∈ fpJ h jv v := by
  have hidv : id ∉ fpJ h jv v := fun hm => hfresh id hm (walk_mem_fp hu hloc)
  -- the written object unfolds to what it unfolded to, with `jv` assigned under `nm`
  refine (refold h id o (fun c => c.setName nm jv) (fpJ h jv v) ?_ loc root j hu hsep hfresh hloc).2
  cases hw with
  | @key k es ho =>
    refine base_dict (dictSet es k v) (fpJ h jv v) (fun c => c.setName (.key k) jv) ho ?_
    intro kvs hkeys q1
    cases hl : es.lookup k with
    | some c =>
      -- an existing key: assignment at its position, on both sides
      obtain ⟨p, _, _, _, _, hkset, hdset, _⟩ := kvs_pos kvs es k c hkeys hl
      have hs := cells_set hv hvn hidv p q1
      rw [← (hkset jv).1, ← (hdset v).1] at hs
      exact ⟨kvsSet kvs k jv, rfl, by rw [(hkset jv).2, (hdset v).2]; exact hkeys, hs⟩
    | none =>
      -- a new key: appended, on both sides
      obtain ⟨_, k2, k3⟩ := kvs_new hkeys hl
      have hs := cells_append hv hvn hidv (o := .dict (dictSet es k v)) q1
      rw [k3 v]
      refine ⟨kvs ++ [(k, jv)], by simp [J.setName, k2 jv], by simp [hkeys], ?_⟩
      rw [k3 v] at hs
      simpa only [List.map_append, List.map_cons, List.map_nil] using hs
  | @idx i xs p ho hni =>
    refine base_list (xs.set p v) (fpJ h jv v) (fun c => c.setName (.idx i) jv) ho ?_
    intro ys hlen q1
    exact ⟨ys.set p jv, by simp [J.setName, hlen, hni], cells_set hv hvn hidv p q1⟩
  | @append xs ho =>
    refine base_list (xs ++ [v]) (fpJ h jv v) (fun c => c.setName (.idx xs.length) jv) ho ?_
    intro ys hlen q1
    exact ⟨ys ++ [jv], by simp [J.setName, hlen, normIndex], cells_append hv hvn hidv q1⟩

/-- `vertex.set` on the tree, for a parent match whose value sits at `loc` of the document
(whatever the match itself records as its location) -/
theorem vertexSet_refold_at {h h' : Heap} {s : Step Val} {pm m : MNode Val} {v : Val} {root : Val} {j jv : J}
    {loc : List Name} (hs : vertexSet h s pm v = .ok (h', m))
    (hu : UnfJ h j root) (hsep : (fpJ h j root).Nodup)
    (hv : UnfJ h jv v) (hvn : (fpJ h jv v).Nodup) (hfresh : ∀ x ∈ fpJ h jv v, x ∉ fpJ h j root)
    (hloc : walk (hview h) root loc = some pm.data) :
    ∃ nm j', s = nameStepV nm ∧ m = .child pm nm v ∧ J.setAt j loc nm jv = some j' ∧ UnfJ h' j' root ∧
      (fpJ h' j' root).Nodup ∧ ∀ x ∈ fpJ h' j' root, x ∈ fpJ h j root ∨ x ∈ fpJ h jv v := by
  obtain ⟨id, nm, o, hd, rfl, hw, rfl, rfl⟩ := vertexSet_ok hs
  exact ⟨nm, (hw.on_tree hu hsep hv hvn hfresh (hd ▸ hloc)).imp fun j' g => ⟨rfl, rfl, g⟩⟩

theorem vertexSet_refold (h h' : Heap) (s : Step Val) (pm m : MNode Val) (v : Val) (root : Val) (j jv : J)
    (hs : vertexSet h s pm v = .ok (h', m))
    (hu : UnfJ h j root) (hsep : (fpJ h j root).Nodup)
    (hv : UnfJ h jv v) (hvn : (fpJ h jv v).Nodup) (hfresh : ∀ x ∈ fpJ h jv v, x ∉ fpJ h j root)
    (hloc : walk (hview h) root pm.loc = some pm.data) :
    ∃ nm j', s = nameStepV nm ∧ m = .child pm nm v ∧ J.setAt j pm.loc nm jv = some j' ∧ UnfJ h' j' root ∧
      (fpJ h' j' root).Nodup ∧ ∀ x ∈ fpJ h' j' root, x ∈ fpJ h j root ∨ x ∈ fpJ h jv v := 
  vertexSet_refold_at hs hu hsep hv hvn hfresh hloc

/-- the write of a `vertex.pop` on the tree, for a container object `id` that sits at `loc` of
the document: the tree afterwards is without the entry `nm` at `loc` -/
theorem PopWrite.on_tree {h : Heap} {id : Nat} {nm : Name} {o : Obj} {root : Val} {j : J} {loc : List Name}
    (hw : PopWrite h id nm o) (hu : UnfJ h j root) (hsep : (fpJ h j root).Nodup)
    (hloc : walk (hview h) root loc = some (.ref id)) :
    ∃ j', J.popAt j loc nm = some j' ∧ UnfJ (hput h id o) j' root ∧
      (fpJ (hput h id o) j' root).Nodup ∧ ∀ x ∈ fpJ (hput h id o) j' root, x ∈ fpJ h j root := by
  -- the written object unfolds to what it unfolded to, without the entry `nm`
  refine (refold h id o (fun c => c.delName nm) [] ?_ loc root j hu hsep (fun _ hx => (List.not_mem_nil hx).elim) hloc).2.imp
    fun j' g => ⟨g.1, g.2.1, g.2.2.1, fun x hx => (g.2.2.2 x hx).resolve_right fun hx => (List.not_mem_nil hx).elim⟩
  cases hw with
  | @key k es c ho hlk =>
    refine base_dict (dictErase es k) [] (fun c => c.delName (.key k)) ho ?_
    intro kvs hkeys q1
    obtain ⟨pp, jc, _, hjc, _, _, _, hkvals, hkkeys, hdvals, hdkeys⟩ := kvs_pos kvs es k c hkeys hlk
    obtain ⟨u1, u2⟩ := unfList_erase pp q1
    rw [← hkvals, ← hdvals] at u1 u2
    exact ⟨kvsErase kvs k, by simp [J.delName, hjc], by rw [hkkeys, hdkeys, hkeys], u1, fun x hx => .inl (u2.subset hx),
      fun n1 _ => u2.nodup n1⟩
  | @idx i xs pp c ho hni hg =>
    refine base_list (xs.eraseIdx pp) [] (fun c => c.delName (.idx i)) ho ?_
    intro ys hlen q1
    obtain ⟨u1, u2⟩ := unfList_erase pp q1
    exact ⟨ys.eraseIdx pp, by simp [J.delName, hlen, hni], u1, fun x hx => .inl (u2.subset hx), fun n1 _ => u2.nodup n1⟩

/-- `vertex.pop` on the tree, for a match whose parent's value sits at `locOf parent` (a function:
the parent is named only inside the conclusion, whereas `vertexSet_refold_at` is handed the parent match) -/
theorem vertexPop_refold_at {h h' : Heap} {last : Option (Step Val)} {m : MNode Val} {root : Val} {j : J}
    (locOf : MNode Val → List Name)
    (hp : vertexPop h last m = .ok h') (hu : UnfJ h j root) (hsep : (fpJ h j root).Nodup)
    (hloc : ∀ p, m.parent = some p → walk (hview h) root (locOf p) = some p.data) :
    ∃ p nm j', m.parent = some p ∧ last = some (nameStepV nm) ∧ J.popAt j (locOf p) nm = some j' ∧ UnfJ h' j' root ∧
      (fpJ h' j' root).Nodup ∧ ∀ x ∈ fpJ h' j' root, x ∈ fpJ h j root := by
  obtain ⟨p, id, nm, o, hpar, hd, rfl, hw, rfl⟩ := vertexPop_ok hp
  exact ⟨p, nm, (hw.on_tree hu hsep (hd ▸ hloc p hpar)).imp fun j' g => ⟨hpar, rfl, g⟩⟩

theorem vertexPop_refold (h h' : Heap) (last : Option (Step Val)) (m : MNode Val) (root : Val) (j : J)
    (hp : vertexPop h last m = .ok h') (hu : UnfJ h j root) (hsep : (fpJ h j root).Nodup)
    (hloc : ∀ p, m.parent = some p → walk (hview h) root p.loc = some p.data) :
    ∃ p nm j', m.parent = some p ∧ last = some (nameStepV nm) ∧ J.popAt j p.loc nm = some j' ∧ UnfJ h' j' root ∧
      (fpJ h' j' root).Nodup ∧ ∀ x ∈ fpJ h' j' root, x ∈ fpJ h j root := 
  vertexPop_refold_at MNode.loc hp hu hsep hloc

end Treepath
