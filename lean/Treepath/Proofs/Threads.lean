/-
The only state that concurrent evaluations sharing a path object share is the pair of lazy
caches of each vertex (`Vertex._path_as_list`, `Vertex._path`): read the slot; if it holds the
sentinel, compute the value from the immutable parent chain into a *local* variable, then store
it with one attribute assignment.  Micro-model: one shared cell, any number of threads and
accesses, interleaved at the granularity of (read slot) and (store slot); every access returns
the pure value, whatever the schedule.
Assumed of the runtime (not modelled): one attribute read / one attribute store is atomic
(the GIL, or per-object locking of free-threaded builds), and the value computed is a pure
function of immutable data (the parent chain of a vertex never changes: C15).
-/
namespace Treepath.Threads

/-- where one thread is inside its current access -/
inductive PC (V : Type) where
  | idle                      -- between accesses
  | computed (v : V)          -- saw the sentinel, computed `v` locally, about to store it
  | returned (v : V)          -- the access returned `v`
  deriving Repr

structure World (V : Type) where
  cell : Option V             -- `none` = the sentinel
  pcs : List (PC V)           -- one entry per thread
  log : List V                -- every value any access has returned, most recent first

variable {V : Type}

/-- thread `i` takes one atomic step -/
def step (f : V) (w : World V) (i : Nat) : World V :=
  match w.pcs[i]? with
  | some .idle =>
    match w.cell with
    | some v => { w with pcs := w.pcs.set i (.returned v), log := v :: w.log }   -- cache hit
    | none => { w with pcs := w.pcs.set i (.computed f) }                         -- miss: compute locally
  | some (.computed v) => { cell := some v, pcs := w.pcs.set i (.returned v), log := v :: w.log }
  | some (.returned _) => { w with pcs := w.pcs.set i .idle }                     -- next access
  | none => w

def run (f : V) (w : World V) (sched : List Nat) : World V := sched.foldl (step f) w

def Inv (f : V) (w : World V) : Prop :=
  (w.cell = none ∨ w.cell = some f) ∧
  (∀ pc ∈ w.pcs, pc = .idle ∨ pc = .computed f ∨ pc = .returned f) ∧
  (∀ v ∈ w.log, v = f)

theorem step_inv (f : V) (w : World V) (i : Nat) (h : Inv f w) : Inv f (step f w i) := by
  obtain ⟨hc, hp, hl⟩ := h
  -- the two ways a step touches the threads and the log: one entry set to a good value, `f` logged
  have hset : ∀ x, (x = .idle ∨ x = .computed f ∨ x = .returned f) →
      ∀ pc ∈ w.pcs.set i x, pc = .idle ∨ pc = .computed f ∨ pc = .returned f :=
    fun x hx pc hm => (List.mem_or_eq_of_mem_set hm).elim (hp pc) fun e => e ▸ hx
  have hlog : ∀ v ∈ f :: w.log, v = f := fun v hv => (List.mem_cons.mp hv).elim id (hl v)
  unfold step
  cases hi : w.pcs[i]? with
  | none => exact ⟨hc, hp, hl⟩
  | some pc =>
    cases pc with
    | idle =>
      cases hcell : w.cell with
      | none => exact ⟨.inl rfl, hset _ (.inr (.inl rfl)), hl⟩
      | some v =>
        obtain rfl : v = f := by rw [hcell] at hc; simpa using hc
        exact ⟨.inr rfl, hset _ (.inr (.inr rfl)), hlog⟩
    | computed v =>
      obtain rfl : v = f := by
        rcases hp _ (List.mem_of_getElem? hi) with h | h | h <;> cases h
        rfl
      exact ⟨.inr rfl, hset _ (.inr (.inr rfl)), hlog⟩
    | returned v => exact ⟨hc, hset _ (.inl rfl), hl⟩

/-- **the cache race is benign**: for any number of threads, any number of accesses each and
any interleaving, every access returns the pure value -/
theorem every_access_returns_the_pure_value (f : V) (threads : Nat) (sched : List Nat) :
    ∀ v ∈ (run f { cell := none, pcs := List.replicate threads .idle, log := [] } sched).log, v = f := by
  have h0 : Inv f ({ cell := none, pcs := List.replicate threads .idle, log := [] } : World V) :=
    ⟨.inl rfl, by intro pc hm; exact .inl (List.eq_of_mem_replicate hm), by simp⟩
  suffices h : ∀ (sched : List Nat) (w : World V), Inv f w → Inv f (run f w sched) from (h sched _ h0).2.2
  intro sched
  induction sched with
  | nil => intro w hw; exact hw
  | cons i is ih => intro w hw; exact ih _ (step_inv f w i hw)

/-- non-vacuity: two threads racing — both miss, both compute, both store, both return -/
example : (run (7 : Nat) { cell := none, pcs := [.idle, .idle], log := [] } [0, 1, 0, 1]).log = [7, 7] := by decide

end Treepath.Threads
