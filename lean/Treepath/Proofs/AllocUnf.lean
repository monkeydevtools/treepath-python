import Treepath.Proofs.Unfold
/-
Loading a JSON tree into the object store (`allocJ`, what the driver does with every
document of the writer families) produces a value that unfolds to that very tree — the
premise `Unf h root j` of the transport theorems is met by every document the correspondence
runs on — through objects that are new and met once each.
-/
namespace Treepath

theorem ext_size {h h' : Heap} (he : Ext h h') : h.size ≤ h'.size :=
  Nat.le_of_not_lt fun hlt =>
    Nat.lt_irrefl _ (lt_size_of_get (he h'.size h[h'.size] (Array.getElem?_eq_getElem hlt)))

/-- a footprint made of objects allocated between `h` and `h1`, each once (what `allocJ` gives the value it loads) -/
def FreshFp (h h1 : Heap) (fp : List Nat) : Prop := fp.Nodup ∧ ∀ x ∈ fp, h.size ≤ x ∧ x < h1.size

theorem freshFp_append {a b c : Heap} {f1 f2 : List Nat} (h1 : FreshFp a b f1) (h2 : FreshFp b c f2)
    (hbc : b.size ≤ c.size) (hab : a.size ≤ b.size) : FreshFp a c (f1 ++ f2) := by
  refine ⟨List.nodup_append.mpr ⟨h1.1, h2.1, fun x hx y hy e => ?_⟩, fun x hx => ?_⟩
  · exact Nat.lt_irrefl _ (Nat.lt_of_lt_of_le (e ▸ (h1.2 x hx).2) (h2.2 y hy).1)
  · rcases List.mem_append.mp hx with hx | hx
    · exact ⟨(h1.2 x hx).1, Nat.lt_of_lt_of_le (h1.2 x hx).2 hbc⟩
    · exact ⟨Nat.le_trans hab (h2.2 x hx).1, (h2.2 x hx).2⟩

theorem freshFp_push {h h1 : Heap} {fp : List Nat} (hf : FreshFp h h1 fp) (hsz : h.size ≤ h1.size) (o : Obj) :
    FreshFp h (h1.push o) (h1.size :: fp) := by
  refine ⟨List.nodup_cons.mpr ⟨fun hm => Nat.lt_irrefl _ (hf.2 _ hm).2, hf.1⟩, fun x hx => ?_⟩
  rw [Array.size_push]
  rcases List.mem_cons.mp hx with rfl | hx
  · exact ⟨hsz, Nat.lt_succ_self _⟩
  · exact ⟨(hf.2 x hx).1, Nat.lt_succ_of_lt (hf.2 x hx).2⟩

mutual
theorem allocJ_loads : ∀ (h : Heap) (j : J), Ext h (allocJ h j).1 ∧ UnfJ (allocJ h j).1 j (allocJ h j).2 ∧
    FreshFp h (allocJ h j).1 (fpJ (allocJ h j).1 j (allocJ h j).2)
  | h, .arr xs => by
    obtain ⟨e1, u1, f1⟩ := allocList_loads h xs
    obtain ⟨u2, q2⟩ := unfList_congr _ u1 fun x _ => ext_push _ (.list (allocJ.allocList h xs).2) x
    have hg := Array.getElem?_push_size (xs := (allocJ.allocList h xs).1) (x := Obj.list (allocJ.allocList h xs).2)
    simp only [allocJ]
    refine ⟨e1.trans (ext_push _ _), ⟨_, hg, u2⟩, ?_⟩
    rw [fpJ_arr hg, q2]
    exact freshFp_push f1 (ext_size e1) _
  | h, .obj kvs => by
    obtain ⟨e1, u1, f1⟩ := allocKvs_loads h kvs
    obtain ⟨u2, q2⟩ := unfKvs_congr _ u1 fun x _ => ext_push _ (.dict (allocJ.allocKvs h kvs).2) x
    have hg := Array.getElem?_push_size (xs := (allocJ.allocKvs h kvs).1) (x := Obj.dict (allocJ.allocKvs h kvs).2)
    simp only [allocJ]
    refine ⟨e1.trans (ext_push _ _), ⟨_, hg, u2⟩, ?_⟩
    rw [fpJ_obj hg, q2]
    exact freshFp_push f1 (ext_size e1) _
  | h, .null => ⟨Ext.refl h, rfl, .nil, fun _ hx => (List.not_mem_nil hx).elim⟩
  | h, .bool _ => ⟨Ext.refl h, rfl, .nil, fun _ hx => (List.not_mem_nil hx).elim⟩
  | h, .int _ => ⟨Ext.refl h, rfl, .nil, fun _ hx => (List.not_mem_nil hx).elim⟩
  | h, .half _ => ⟨Ext.refl h, rfl, .nil, fun _ hx => (List.not_mem_nil hx).elim⟩
  | h, .str _ => ⟨Ext.refl h, rfl, .nil, fun _ hx => (List.not_mem_nil hx).elim⟩
theorem allocList_loads : ∀ (h : Heap) (xs : List J), Ext h (allocJ.allocList h xs).1 ∧
    UnfListJ (allocJ.allocList h xs).1 xs (allocJ.allocList h xs).2 ∧
    FreshFp h (allocJ.allocList h xs).1 (fpList (allocJ.allocList h xs).1 xs (allocJ.allocList h xs).2)
  | h, [] => ⟨Ext.refl h, trivial, .nil, fun _ hx => (List.not_mem_nil hx).elim⟩
  | h, x :: xs => by
    obtain ⟨e1, u1, f1⟩ := allocJ_loads h x
    obtain ⟨e2, u2, f2⟩ := allocList_loads (allocJ h x).1 xs
    obtain ⟨u1', q1⟩ := unf_congr _ u1 fun y _ => e2 y
    simp only [allocJ.allocList]
    refine ⟨e1.trans e2, ⟨u1', u2⟩, ?_⟩
    rw [fpList_cons, q1]
    exact freshFp_append f1 f2 (ext_size e2) (ext_size e1)
theorem allocKvs_loads : ∀ (h : Heap) (kvs : List (String × J)), Ext h (allocJ.allocKvs h kvs).1 ∧
    UnfKvsJ (allocJ.allocKvs h kvs).1 kvs (allocJ.allocKvs h kvs).2 ∧
    FreshFp h (allocJ.allocKvs h kvs).1 (fpKvs (allocJ.allocKvs h kvs).1 kvs (allocJ.allocKvs h kvs).2)
  | h, [] => ⟨Ext.refl h, trivial, .nil, fun _ hx => (List.not_mem_nil hx).elim⟩
  | h, (k, x) :: kvs => by
    obtain ⟨e1, u1, f1⟩ := allocJ_loads h x
    obtain ⟨e2, u2, f2⟩ := allocKvs_loads (allocJ h x).1 kvs
    obtain ⟨u1', q1⟩ := unf_congr _ u1 fun y _ => e2 y
    simp only [allocJ.allocKvs]
    refine ⟨e1.trans e2, ⟨rfl, u1', u2⟩, ?_⟩
    rw [fpKvs_cons, q1]
    exact freshFp_append f1 f2 (ext_size e2) (ext_size e1)
end

theorem allocJ_spec : ∀ (h : Heap) (j : J), Ext h (allocJ h j).1 ∧ UnfJ (allocJ h j).1 j (allocJ h j).2 :=
  fun h j => ⟨(allocJ_loads h j).1, (allocJ_loads h j).2.1⟩

theorem allocJ_fp : ∀ (h : Heap) (j : J), FreshFp h (allocJ h j).1 (fpJ (allocJ h j).1 j (allocJ h j).2) :=
  fun h j => (allocJ_loads h j).2.2

theorem allocList_fp : ∀ (h : Heap) (xs : List J),
    FreshFp h (allocJ.allocList h xs).1 (fpList (allocJ.allocList h xs).1 xs (allocJ.allocList h xs).2) :=
  fun h xs => (allocList_loads h xs).2.2

theorem allocKvs_fp : ∀ (h : Heap) (kvs : List (String × J)),
    FreshFp h (allocJ.allocKvs h kvs).1 (fpKvs (allocJ.allocKvs h kvs).1 kvs (allocJ.allocKvs h kvs).2) :=
  fun h kvs => (allocKvs_loads h kvs).2.2

end Treepath
